import SpVerif.Model.Core
import SpVerif.Model.Naming
import SpVerif.Lemmas.Core
import SpVerif.Model.BoolFlag
import SpVerif.Lemmas.BoolFlag
import SpVerif.Model.BoolFlagE2E
import SpVerif.Drive.BoolFlagE2E
import SpVerif.Drive.Naming
import SpVerif.Props.C12
import SpVerif.Props.C10
import SpVerif.Model.Conflicts
import SpVerif.Drive.Conflicts
import SpVerif.Props.C03
import SpVerif.Model.Replace
import SpVerif.Drive.Replace
import SpVerif.Props.C18
import SpVerif.Model.DocScan
import SpVerif.Lemmas.DocScan
import SpVerif.Lemmas.EngineMore
import SpVerif.Lemmas.C04Step
import SpVerif.Drive.DocScan
import SpVerif.Props.C19
import SpVerif.Model.Val
import SpVerif.Model.Engine
import SpVerif.Drive.Engine
import SpVerif.Model.Callables
import SpVerif.Drive.Callables
import SpVerif.Props.C20
import SpVerif.Model.Fields
import SpVerif.Drive.Fields
import SpVerif.Lemmas.Fields
import SpVerif.Props.C02
import SpVerif.Model.Subclass
import SpVerif.Drive.Subclass
import SpVerif.Props.C14
import SpVerif.Model.Serial
import SpVerif.Drive.Serial
import SpVerif.Lemmas.Serial
import SpVerif.Props.C05
import SpVerif.Props.C13
import SpVerif.Props.C04
import SpVerif.Model.Defaults
import SpVerif.Drive.Defaults
import SpVerif.Props.C01
import SpVerif.Model.Annot
import SpVerif.Drive.Annot
import SpVerif.Props.C17
import SpVerif.Model.Merge
import SpVerif.Drive.Merge
import SpVerif.Props.C11
import SpVerif.Model.Layers
import SpVerif.Drive.Layers
import SpVerif.Lemmas.Layers
import SpVerif.Props.C06
import SpVerif.Model.Post
import SpVerif.Lemmas.Post
import SpVerif.Lemmas.PostTotal
import SpVerif.Drive.Post
import SpVerif.Props.C09
import SpVerif.Model.History
import SpVerif.Drive.History
import SpVerif.Props.C08
import SpVerif.Model.ConfigLoop
import SpVerif.Drive.ConfigLoop
import SpVerif.Props.C15
import SpVerif.Model.Subgroups
import SpVerif.Drive.Subgroups
import SpVerif.Props.C07
import SpVerif.Model.Help
import SpVerif.Drive.Help
import SpVerif.Props.C16
