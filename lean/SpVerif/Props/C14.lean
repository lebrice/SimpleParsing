/-
  C14 — loading through a base class recovers the right subclass or exactly the base.
  Theorems about `SpVerif.Model.Subclass` (mirrors serializable.py `from_dict` / `to_dict` / `__init_subclass__`).

  The choice "sorted by number of fields, first superset" is studied on an arbitrary candidate list (`pick`): the
  unbounded quantifiers (any hierarchy, any iteration order π of the subclass set, hence any definition order) are closed
  there by a cardinality argument.  The open findings D16 and `C14-nested-drop-forwarding` come as full statement,
  witness and named exclusion.
-/
import Batteries.Data.List.Perm
import SpVerif.Model.Subclass
namespace SpVerif.C14
open SpVerif SpVerif.Sub List

theorem insertByKey_perm (key : α → Nat) (x : α) (l : List α) : (insertByKey key x l).Perm (x :: l) := by
  induction l with
  | nil => exact Perm.refl _
  | cons y ys ih =>
    simp only [insertByKey]
    split
    · exact Perm.refl _
    · exact (Perm.cons y ih).trans (Perm.swap x y ys)

theorem sortByKey_perm (key : α → Nat) (l : List α) : (sortByKey key l).Perm l := by
  induction l with
  | nil => exact Perm.refl _
  | cons x xs ih => exact (insertByKey_perm key x _).trans (Perm.cons x ih)

theorem insertByKey_sorted (key : α → Nat) (x : α) (l : List α)
    (h : l.Pairwise (fun a b => key a ≤ key b)) : (insertByKey key x l).Pairwise (fun a b => key a ≤ key b) := by
  induction l with
  | nil => exact pairwise_singleton _ _
  | cons y ys ih =>
    obtain ⟨hy, hys⟩ := pairwise_cons.mp h
    simp only [insertByKey]
    split
    next hxy => exact pairwise_cons.mpr ⟨forall_mem_cons.mpr ⟨hxy, fun b hb => Nat.le_trans hxy (hy b hb)⟩, h⟩
    next hxy =>
      refine pairwise_cons.mpr ⟨fun b hb => ?_, ih hys⟩
      rcases mem_cons.mp ((insertByKey_perm key x ys).subset hb) with rfl | hb
      · exact Nat.le_of_not_le hxy
      · exact hy b hb

theorem sortByKey_sorted (key : α → Nat) (l : List α) :
    (sortByKey key l).Pairwise (fun a b => key a ≤ key b) := by
  induction l with
  | nil => exact Pairwise.nil
  | cons x xs ih => exact insertByKey_sorted key x _ ih

theorem find_first_le {key : α → Nat} {p : α → Bool} {l : List α}
    (hs : l.Pairwise (fun a b => key a ≤ key b)) {c d : α} (hc : l.find? p = some c) (hd : d ∈ l) (hpd : p d = true) :
    key c ≤ key d := by
  -- `l = as ++ c :: bs` with `p` false on `as`: `d` is `c` or comes after it
  obtain ⟨_, as, bs, rfl, has⟩ := find?_eq_some_iff_append.mp hc
  rcases mem_append.mp hd with hd | hd
  · have := has d hd
    rw [hpd] at this
    cases this
  · rcases mem_cons.mp hd with rfl | hd
    · exact Nat.le_refl _
    · exact (pairwise_cons.mp (pairwise_append.mp hs).2.1).1 d hd

/-- serializable.py:880-893 over an abstract "field names of a class" function (all fields, `init=False` included;
    the sort key is the number of fields) -/
def pick (flds : α → List Str) (cands : List α) (req : List Str) : Option α :=
  (sortByKey (fun c => (flds c).length) cands).find? (fun c => req.all (fun k => (flds c).contains k))

theorem pickSubclass_eq (R : List RCls) (cands : List Nat) (req : List Str) :
    pickSubclass R cands req = pick (fieldNames R) cands req := rfl

/-- a candidate "has every required key" -/
def Covers (flds : α → List Str) (c : α) (req : List Str) : Prop := ∀ k ∈ req, k ∈ flds c

theorem covers_iff {flds : α → List Str} {c : α} {req : List Str} :
    (req.all (fun k => (flds c).contains k)) = true ↔ Covers flds c req := by
  simp only [Covers, all_eq_true, contains_iff_mem]

/-- **Superset clause.** Whatever the order of the candidates, a chosen class is one of the candidates and has every
    required (serialized) key among its fields. -/
theorem c14_superset (flds : α → List Str) (cands : List α) (req : List Str) (c : α)
    (h : pick flds cands req = some c) : c ∈ cands ∧ Covers flds c req := by
  unfold pick at h
  have hp := find?_some h
  exact ⟨(sortByKey_perm _ cands).subset (mem_of_find?_eq_some h), covers_iff.mp hp⟩

theorem pick_eq_none_iff {flds : α → List Str} {cands : List α} {req : List Str} :
    pick flds cands req = none ↔ ∀ c ∈ cands, ¬ Covers flds c req := by
  simp only [pick, find?_eq_none, covers_iff, (sortByKey_perm _ cands).mem_iff]

/-- no candidate qualifies ⇒ nothing is chosen (the code then fails with `RuntimeError`) -/
theorem pick_none (flds : α → List Str) (cands : List α) (req : List Str)
    (h : ∀ c ∈ cands, ¬ Covers flds c req) : pick flds cands req = none :=
  pick_eq_none_iff.mpr h

/-- the field set of `d` identifies it among the candidates -/
def Identifies (flds : α → List Str) (cands : List α) (d : α) : Prop :=
  ∀ c ∈ cands, (∀ k, k ∈ flds c ↔ k ∈ flds d) → c = d

/-- `Identifies` from its bounded (decidable) form -/
theorem identifies_of (flds : α → List Str) (cands : List α) (d : α)
    (h : ∀ c ∈ cands, (∀ k ∈ flds c, k ∈ flds d) → (∀ k ∈ flds d, k ∈ flds c) → c = d) : Identifies flds cands d :=
  fun c hc hk => h c hc (fun k => (hk k).mp) (fun k => (hk k).mpr)

/-- cardinality argument: a duplicate-free list contained in a list that is not longer has the same elements -/
theorem subset_of_card_le (a b : List Str) (hn : a.Nodup) (hab : a ⊆ b) (hl : b.length ≤ a.length) : b ⊆ a :=
  ((subperm_of_subset hn hab).perm_of_length_le hl).symm.subset

/-- **Superset clause, sharpened.**  As soon as a candidate `d` qualifies (the derived class itself always does), some class
    is chosen, and whatever class is chosen — identified or not, whatever the order — has EXACTLY the field-name set of `d`
    (cardinality argument: it sorts no later than `d` and contains `d`'s fields). -/
theorem pick_same_set (flds : α → List Str) (cands : List α) (req : List Str) (d : α)
    (hd : d ∈ cands) (hnd : (flds d).Nodup)
    (hsub : Covers flds d req) (hfull : ∀ c ∈ cands, Covers flds c req → flds d ⊆ flds c) :
    ∃ c, pick flds cands req = some c ∧ c ∈ cands ∧ flds d ⊆ flds c ∧ flds c ⊆ flds d := by
  cases hc : pick flds cands req with
  | none => exact absurd hsub (pick_eq_none_iff.mp hc d hd)
  | some c =>
    obtain ⟨hcm, hcc⟩ := c14_superset flds cands req c hc
    have hle : (flds c).length ≤ (flds d).length :=
      find_first_le (sortByKey_sorted _ cands) hc
        ((sortByKey_perm _ cands).symm.subset hd) (covers_iff.mpr hsub)
    have hdc : flds d ⊆ flds c := hfull c hcm hcc
    exact ⟨c, rfl, hcm, hdc, subset_of_card_le _ _ hnd hdc hle⟩

/-- **Central theorem (identified clause).**  If `d` has every required key, every candidate having the required keys
    has all of `d`'s fields (the required keys are `d`'s serialized keys minus fields every candidate inherits), and no
    other candidate has the same field set, the choice is `d` — for EVERY order `cands` of the candidate set (the iteration
    order of `all_subclasses`, i.e. every definition order / process history) and any number of classes. -/
theorem c14_identified_pick (flds : α → List Str) (cands : List α) (req : List Str) (d : α)
    (hd : d ∈ cands) (hnd : (flds d).Nodup)
    (hsub : Covers flds d req) (hfull : ∀ c ∈ cands, Covers flds c req → flds d ⊆ flds c)
    (huniq : Identifies flds cands d) : pick flds cands req = some d := by
  obtain ⟨c, hc, hcm, hdc, hcd⟩ := pick_same_set flds cands req d hd hnd hsub hfull
  rw [hc, huniq c hcm (fun k => ⟨fun h => hcd h, fun h => hdc h⟩)]

/-- **Order freedom.** In the identified case the chosen class does not depend on the iteration order of the
    subclass set (nor, therefore, on the order in which the classes were defined). -/
theorem c14_order_free (flds : α → List Str) (cands₁ cands₂ : List α) (req : List Str) (d : α)
    (hperm : cands₁.Perm cands₂) (hd : d ∈ cands₁) (hnd : (flds d).Nodup)
    (hsub : Covers flds d req) (hfull : ∀ c ∈ cands₁, Covers flds c req → flds d ⊆ flds c)
    (huniq : Identifies flds cands₁ d) :
    pick flds cands₁ req = pick flds cands₂ req := by
  rw [c14_identified_pick flds cands₁ req d hd hnd hsub hfull huniq,
    c14_identified_pick flds cands₂ req d (hperm.subset hd) hnd hsub
      (fun c hc => hfull c (hperm.symm.subset hc)) (fun c hc => huniq c (hperm.symm.subset hc))]

/-- the full statement "the choice never depends on the iteration order" is FALSE without identification:
    two siblings with the same field set are told apart only by the set order -/
def OrderNeverMatters : Prop :=
  ∀ (flds : Nat → List Str) (c₁ c₂ : List Nat) (req : List Str), c₁.Perm c₂ → pick flds c₁ req = pick flds c₂ req

theorem c14_order_matters_witness : ¬ OrderNeverMatters := fun h =>
  absurd (h (fun _ => ["x".toList]) [1, 2] [2, 1] ["x".toList] (Perm.swap 2 1 [])) (by decide +kernel)

/-! non-vacuity: three candidates, nested / overlapping field sets, `d = 2` identified -/
example : pick (fun c => match c with | 1 => ["a".toList] | 2 => ["a".toList, "x".toList] | _ => ["a".toList, "x".toList, "y".toList])
    [3, 2, 1] ["x".toList, "a".toList] = some 2 := by decide +kernel
example : Identifies (fun c => match c with | 1 => ["a".toList] | 2 => ["a".toList, "x".toList] | _ => ["a".toList, "x".toList, "y".toList])
    [3, 2, 1] 2 := identifies_of _ _ _ (by decide +kernel)

theorem lookupKey_head (k : Str) (v : α) (r : List (Str × α)) : lookupKey k ((k, v) :: r) = some v :=
  if_pos rfl

theorem lookupKey_eq_none {k : Str} {kv : List (Str × α)} (h : k ∉ kv.map (·.1)) : lookupKey k kv = none := by
  induction kv with
  | nil => rfl
  | cons q r ih =>
    obtain ⟨k', v⟩ := q
    obtain ⟨hk', hr⟩ := not_or.mp (mt mem_cons.mpr h)
    rw [lookupKey, if_neg (fun e => hk' e.symm)]
    exact ih hr

theorem lookupKey_of_mem (kv : List (Str × α)) (hn : (kv.map (·.1)).Nodup) (p : Str × α) (hp : p ∈ kv) :
    lookupKey p.1 kv = some p.2 := by
  induction kv with
  | nil => cases hp
  | cons q r ih =>
    obtain ⟨k, v⟩ := q
    obtain ⟨hk, hr⟩ := nodup_cons.mp hn
    rw [lookupKey]
    rcases mem_cons.mp hp with rfl | hp
    · exact if_pos rfl
    · rw [if_neg (fun e => hk (mem_map.mpr ⟨p, hp, e.symm⟩))]
      exact ih hr hp

theorem lookupKey_map_key (F : List β) (key : β → Str) (val : Str → α) (k : Str) (hk : k ∈ F.map key) :
    lookupKey k (F.map (fun f => (key f, val (key f)))) = some (val k) := by
  induction F with
  | nil => cases hk
  | cons g gs ih =>
    rw [map_cons, lookupKey]
    split
    next h => rw [h]
    next h => exact ih ((mem_cons.mp hk).resolve_left (fun e => h e.symm))

theorem eraseKey_head (k : Str) (v : α) (r : List (Str × α)) (h : k ∉ r.map (·.1)) :
    eraseKey k ((k, v) :: r) = r := by
  rw [eraseKey, filter_cons_of_neg (by simp)]
  exact filter_eq_self.mpr (fun p hp => decide_eq_true (fun e => h (e ▸ mem_map_of_mem hp)))

/-- the test at serializable.py:860 (`extra_args`): is a key among the field names `l`? -/
theorem not_contains_iff {l : List Str} {k : Str} : (!l.contains k) = true ↔ k ∉ l := by
  rw [Bool.not_eq_true', ← Bool.not_eq_true, contains_iff_mem]

theorem extras_eq_nil {l keys : List Str} (h : keys ⊆ l) : keys.filter (fun k => !l.contains k) = [] :=
  filter_eq_nil_iff.mpr (fun _ hk h' => not_contains_iff.mp h' (h hk))

/-- serializable.py:813-819, the `_type_` redirect: the class loaded through and `drop_extra_fields` play no part -/
theorem fromDict_typed {R : List RCls} {path : Str} {t : Nat} {kv : List (Str × J)} (π : Nat → List Nat) (fuel b : Nat)
    (drop : Option Bool) (hloc : locate R path = some t) (hk : typeKey ∉ kv.map (·.1)) :
    fromDict R π (fuel + 1) b (.obj ((typeKey, .str path) :: kv)) drop = fromDict R π fuel t (.obj kv) drop := by
  simp only [fromDict, lookupKey_head, hloc, eraseKey_head _ _ _ hk]

/-- serializable.py:860: no key is left over, or `drop_extra_fields` is in effect — the subclass search is never entered -/
theorem fromDict_construct {R : List RCls} {π : Nat → List Nat} {fuel c : Nat} {rc : RCls} {kv : List (Str × J)}
    {drop : Option Bool} {dec fs : List (Str × Val)}
    (hty : lookupKey typeKey kv = none) (hc : R[c]? = some rc)
    (hdec : decodeFields (fun c j dr => fromDict R π fuel c j dr) (drop.getD (if rc.mixin then false else !rc.dis))
      kv rc.fields = .ok dec)
    (hex : kv.map (·.1) ⊆ rc.fields.map (·.name) ∨ drop.getD (if rc.mixin then false else !rc.dis) = true)
    (hcon : construct rc.fields dec = .ok fs) :
    fromDict R π (fuel + 1) c (.obj kv) drop = .ok (.inst c fs) := by
  have hgo : (((kv.map (·.1)).filter (fun k => !(rc.fields.map (·.name)).contains k)).isEmpty
      || drop.getD (if rc.mixin then false else !rc.dis)) = true := by
    rcases hex with h | h
    · rw [extras_eq_nil h]; rfl
    · rw [h, Bool.or_true]
  simp only [fromDict, hty, hc, hdec, hgo, if_true, hcon]

/-- serializable.py:870-896: keys are left over and `drop_extra_fields` is off — the dict goes, with
    `drop_extra_fields=False`, to the subclass chosen for the left-over keys and the decoded init fields -/
theorem fromDict_search {R : List RCls} {π : Nat → List Nat} {fuel b : Nat} {rb : RCls} {kv : List (Str × J)}
    {drop : Option Bool} {dec : List (Str × Val)}
    (hty : lookupKey typeKey kv = none) (hb : R[b]? = some rb)
    (hkeep : drop.getD (if rb.mixin then false else !rb.dis) = false)
    (hdec : decodeFields (fun c j dr => fromDict R π fuel c j dr) false kv rb.fields = .ok dec)
    (hne : (kv.map (·.1)).filter (fun k => !(rb.fields.map (·.name)).contains k) ≠ []) :
    fromDict R π (fuel + 1) b (.obj kv) drop =
      match pickSubclass R ((π b).filter (fun c => c ≠ b))
        ((kv.map (·.1)).filter (fun k => !(rb.fields.map (·.name)).contains k)
          ++ (dec.map (·.1)).filter (fun k => (initNames R b).contains k)) with
      | some child => fromDict R π fuel child (.obj kv) (some false)
      | none => .raise "RuntimeError".toList := by
  simp only [fromDict, hty, hb, hkeep, hdec, isEmpty_eq_false_iff.mpr hne, Bool.or_false, Bool.false_eq_true, if_false]
  rfl

/-- **Drop clause, any content.** If the base's fields decode (to whatever values `dec`) and the constructor accepts them,
    the result is an instance of EXACTLY the base — whatever else the dict holds, whatever subclasses exist. -/
theorem c14_drop_gen (R : List RCls) (π : Nat → List Nat) (fuel : Nat) (b : Nat) (rb : RCls) (kv : List (Str × J))
    (drop : Option Bool) (dec fs : List (Str × Val))
    (hb : R[b]? = some rb)
    (hdrop : drop.getD (if rb.mixin then false else !rb.dis) = true) (hty : lookupKey typeKey kv = none)
    (hdec : decodeFields (fun c j dr => fromDict R π fuel c j dr) true kv rb.fields = .ok dec)
    (hcon : construct rb.fields dec = .ok fs) :
    fromDict R π (fuel + 1) b (.obj kv) drop = .ok (.inst b fs) :=
  fromDict_construct hty hb (by rw [hdrop]; exact hdec) (.inr hdrop) hcon

theorem initNames_eq (R : List RCls) (c : Nat) (rc : RCls) (h : R[c]? = some rc) :
    initNames R c = (rc.fields.filter (·.init)).map (·.name) := by
  rw [initNames, h]

theorem fieldNames_eq {R : List RCls} {c : Nat} {rc : RCls} (h : R[c]? = some rc) :
    fieldNames R c = rc.fields.map (·.name) := by
  rw [fieldNames, h]

/-- every candidate has the fields of the class it derives from (children extend parents) -/
def ExtendBase (R : List RCls) (cands : List Nat) (b : Nat) : Prop :=
  ∀ c ∈ cands, ∀ k ∈ fieldNames R b, k ∈ fieldNames R c

/-- the required keys, by names only -/
def reqN (R : List RCls) (b : Nat) (rb : RCls) (extn : List Str) : List Str :=
  extn ++ (rb.fields.map (·.name)).filter (fun k => (initNames R b).contains k)

/-- what is needed of the serialized dict `kv` of a `D` instance and of the two classes (no field types, no values) -/
structure DerivedKeys (R : List RCls) (b D : Nat) (rb rD : RCls) (extn : List Str) (kv : List (Str × J)) : Prop where
  hb : R[b]? = some rb
  hD : R[D]? = some rD
  names : rD.fields.map (·.name) = rb.fields.map (·.name) ++ extn
  keys : kv.map (·.1) = rD.fields.map (·.name)
  nodup : (rD.fields.map (·.name)).Nodup
  noTypeKey : lookupKey typeKey kv = none

/-- **Superset clause, any content.**  Without identification the first call — the base's own fields consumed, the added
    keys left over — hands the dict on (never `RuntimeError`) to a strict subclass `c` of the candidate set whose field-name
    set is EXACTLY that of `D`; for every order `π b`. -/
theorem keep_picks {R : List RCls} (π : Nat → List Nat) (fuel : Nat) {b D : Nat} {rb rD : RCls}
    {extn : List Str} {kv : List (Str × J)} {drop : Option Bool} {decB : List (Str × Val)}
    (h : DerivedKeys R b D rb rD extn kv) (hkeep : drop.getD (if rb.mixin then false else !rb.dis) = false)
    (hext : extn ≠ [])
    (hdecB : decodeFields (fun c j dr => fromDict R π fuel c j dr) false kv rb.fields = .ok decB)
    (hnamesB : decB.map (·.1) = rb.fields.map (·.name))
    (hsubcls : ExtendBase R (π b) b) (hDπ : D ∈ π b) (hDb : D ≠ b) :
    ∃ c, c ∈ (π b).filter (fun c => c ≠ b) ∧ fieldNames R D ⊆ fieldNames R c ∧ fieldNames R c ⊆ fieldNames R D ∧
      fromDict R π (fuel + 1) b (.obj kv) drop = fromDict R π fuel c (.obj kv) (some false) := by
  have hDn := fieldNames_eq h.hD
  -- `D` itself has every required key, and a subclass of `b` that has them has every field of `D`
  have hcov : Covers (fieldNames R) D (reqN R b rb extn) := by
    intro k hk
    rw [hDn, h.names]
    exact (mem_append.mp hk).elim (mem_append_right _) (fun hk => mem_append_left _ (mem_filter.mp hk).1)
  have hfull : ∀ c ∈ (π b).filter (fun c => c ≠ b), Covers (fieldNames R) c (reqN R b rb extn) →
      fieldNames R D ⊆ fieldNames R c := by
    intro c hc hcv k hk
    rw [hDn, h.names] at hk
    rcases mem_append.mp hk with hk | hk
    · exact hsubcls c (mem_filter.mp hc).1 k (by rw [fieldNames_eq h.hb]; exact hk)
    · exact hcv k (mem_append_left _ hk)
  obtain ⟨c, hc, hcm, h1, h2⟩ := pick_same_set (fieldNames R) _ (reqN R b rb extn) D
    (mem_filter.mpr ⟨hDπ, decide_eq_true hDb⟩) (hDn ▸ h.nodup) hcov hfull
  refine ⟨c, hcm, h1, h2, ?_⟩
  -- the keys left over are exactly the added names: these are disjoint from the base's
  have hnd := h.names ▸ h.nodup
  have hextras : (kv.map (·.1)).filter (fun k => !(rb.fields.map (·.name)).contains k) = extn := by
    rw [h.keys, h.names, filter_append, extras_eq_nil (Subset.refl _),
      filter_eq_self.mpr (fun k hk => not_contains_iff.mpr (fun hk' => (nodup_append.mp hnd).2.2 k hk' k hk rfl))]
    rfl
  rw [reqN] at hc
  rw [fromDict_search h.noTypeKey h.hb hkeep hdecB (hextras ▸ hext), hextras, hnamesB,
    pickSubclass_eq, hc]

/-- **Identified clause, any content.**  Whatever the fields of `D` hold (nested instances, containers, any values): if
    the base's fields decode and `D`'s own fields decode and construct `fs`, then loading through `b` returns an instance of
    `D` — the class choice depends on the key names only — for every set order `π b`. -/
theorem c14_identified_gen (R : List RCls) (π : Nat → List Nat) (fuel : Nat) (b D : Nat) (rb rD : RCls)
    (extn : List Str) (kv : List (Str × J)) (drop : Option Bool) (decB decD fs : List (Str × Val))
    (h : DerivedKeys R b D rb rD extn kv) (hkeep : drop.getD (if rb.mixin then false else !rb.dis) = false)
    (hext : extn ≠ [])
    (hdecB : decodeFields (fun c j dr => fromDict R π (fuel + 1) c j dr) false kv rb.fields = .ok decB)
    (hnamesB : decB.map (·.1) = rb.fields.map (·.name))
    (hdecD : decodeFields (fun c j dr => fromDict R π fuel c j dr) false kv rD.fields = .ok decD)
    (hcon : construct rD.fields decD = .ok fs)
    (hsubcls : ExtendBase R (π b) b) (hDπ : D ∈ π b) (hDb : D ≠ b)
    (huniq : Identifies (fieldNames R) ((π b).filter (fun c => c ≠ b)) D) :
    fromDict R π (fuel + 2) b (.obj kv) drop = .ok (.inst D fs) := by
  obtain ⟨c, hcm, h1, h2, hstep⟩ := keep_picks π (fuel + 1) h hkeep hext hdecB hnamesB hsubcls hDπ hDb
  rw [hstep, huniq c hcm (fun k => ⟨fun hk => h2 hk, fun hk => h1 hk⟩)]
  exact fromDict_construct h.noTypeKey h.hD hdecD (.inl (h.keys ▸ Subset.refl _)) hcon

def fInt (n : String) (init : Bool := true) : Field := ⟨n.toList, init, .prim, some (.int 0)⟩

def mkCls (n : String) (parent : Option Nat) (dis : Option Bool) (own : List Field) (frozen : Bool := false)
    (mixin : Bool := false) : Cls :=
  { name := n.toList, parent := parent, dis := dis, own := own, frozen := frozen, mixin := mixin }

/-- the field values of an instance whose fields are all `int`: `x` gives the value of each field name -/
def valOf (x : Str → Int) (F : List Field) : List (Str × Val) := F.map (fun f => (f.name, Val.int (x f.name)))

/-- what `to_dict` writes for them -/
def rawOf (x : Str → Int) (F : List Field) : List (Str × J) := F.map (fun f => (f.name, J.int (x f.name)))

theorem encKV_eq_map (R : List RCls) (s : Bool) (fs : List (Str × Val)) :
    encKV R s fs = fs.map (fun q => (q.1, encV R s q.2)) := by
  induction fs with
  | nil => rfl
  | cons p r ih => exact congrArg ((p.1, encV R s p.2) :: ·) ih

theorem encKV_keys (R : List RCls) (s : Bool) (fs : List (Str × Val)) : (encKV R s fs).map (·.1) = fs.map (·.1) := by
  rw [encKV_eq_map, map_map]
  rfl

theorem encKV_valOf (R : List RCls) (save : Bool) (x : Str → Int) (F : List Field) :
    encKV R save (valOf x F) = rawOf x F := by
  rw [encKV_eq_map, valOf, map_map]
  rfl

theorem enc_flat (R : List RCls) (D : Nat) (x : Str → Int) (F : List Field) :
    encV R false (.inst D (valOf x F)) = .obj (rawOf x F) :=
  congrArg J.obj (encKV_valOf R false x F)

theorem rawOf_keys (x : Str → Int) (F : List Field) : (rawOf x F).map (·.1) = F.map (·.name) :=
  map_map ..

theorem valOf_keys (x : Str → Int) (F : List Field) : (valOf x F).map (·.1) = F.map (·.name) :=
  map_map ..

theorem lookup_rawOf_name (x : Str → Int) {F : List Field} {k : Str} (hk : k ∈ F.map (·.name)) :
    lookupKey k (rawOf x F) = some (J.int (x k)) :=
  lookupKey_map_key F (·.name) (fun k => J.int (x k)) k hk

theorem decodeFields_prim {load : Nat → J → Option Bool → Out} {dropE : Bool} {kv : List (Str × J)}
    {x : Str → Int} {F : List Field} (hp : ∀ f ∈ F, f.ty = .prim)
    (hk : ∀ f ∈ F, lookupKey f.name kv = some (J.int (x f.name))) :
    decodeFields load dropE kv F = .ok (valOf x F) := by
  induction F with
  | nil => rfl
  | cons f fs ih =>
    obtain ⟨hpf, hpfs⟩ := forall_mem_cons.mp hp
    obtain ⟨hkf, hkfs⟩ := forall_mem_cons.mp hk
    rw [decodeFields, hkf, hpf, ih hpfs hkfs]
    rfl

theorem construct_of_lookup {F : List Field} {fs args : List (Str × Val)}
    (hn : fs.map (·.1) = F.map (·.name)) (hl : ∀ p ∈ fs, lookupKey p.1 args = some p.2) :
    construct F args = .ok fs := by
  induction F generalizing fs with
  | nil => rw [map_eq_nil_iff.mp hn]; rfl
  | cons f F' ih =>
    cases fs with
    | nil => cases hn
    | cons p r =>
      obtain ⟨k, v⟩ := p
      obtain ⟨rfl, hnr⟩ := cons.inj hn
      obtain ⟨hp, hr⟩ := forall_mem_cons.mp hl
      rw [construct, hp, ih hnr hr]

theorem construct_valOf (x : Str → Int) (F : List Field) : construct F (valOf x F) = .ok (valOf x F) := by
  refine construct_of_lookup (valOf_keys x F) (fun p hp => ?_)
  obtain ⟨f, hf, rfl⟩ := mem_map.mp hp
  exact lookupKey_map_key F (·.name) (fun k => Val.int (x k)) f.name (mem_map_of_mem hf)

/-- **The dict of an instance with the field names of `c` is loaded as exactly `c`** — with any `drop_extra_fields`, any
    subclasses, any order: no key is left over and the constructor gets every argument (never `RuntimeError`). -/
theorem load_flat {R : List RCls} {c : Nat} {rc : RCls} {F : List Field} (π : Nat → List Nat) (fuel : Nat)
    (x : Str → Int) (drop : Option Bool) (hc : R[c]? = some rc) (hp : ∀ f ∈ rc.fields, f.ty = .prim)
    (hnt : typeKey ∉ F.map (·.name))
    (hFc : F.map (·.name) ⊆ rc.fields.map (·.name)) (hcF : rc.fields.map (·.name) ⊆ F.map (·.name)) :
    fromDict R π (fuel + 1) c (.obj (rawOf x F)) drop = .ok (.inst c (valOf x rc.fields)) :=
  fromDict_construct (lookupKey_eq_none (rawOf_keys x F ▸ hnt)) hc
    (decodeFields_prim hp (fun _ hf => lookup_rawOf_name x (hcF (mem_map_of_mem hf))))
    (.inl (rawOf_keys x F ▸ hFc)) (construct_valOf x rc.fields)

/-- **Drop clause.** With `drop_extra_fields` in effect (given as `True`, or `None` on a class that does not decode
    into subclasses) and no `_type_` key, the result is EXACTLY the base class, its own fields kept, every unknown
    key dropped — whatever the unknown keys are and whatever subclasses exist. -/
theorem c14_drop (R : List RCls) (π : Nat → List Nat) (fuel : Nat) (b : Nat) (rb : RCls) (kv : List (Str × J))
    (x : Str → Int) (drop : Option Bool)
    (hb : R[b]? = some rb)
    (hdrop : drop.getD (if rb.mixin then false else !rb.dis) = true)
    (hty : lookupKey typeKey kv = none) (hp : ∀ f ∈ rb.fields, f.ty = .prim)
    (hk : ∀ f ∈ rb.fields, lookupKey f.name kv = some (J.int (x f.name))) :
    fromDict R π (fuel + 1) b (.obj kv) drop = .ok (.inst b (valOf x rb.fields)) :=
  c14_drop_gen R π fuel b rb kv drop _ _ hb hdrop hty (decodeFields_prim hp hk)
    (construct_valOf x rb.fields)

/-! #### closed test vectors `… = .ok v`
    `Val` is a nested inductive type without `DecidableEq`; a one-sided equality test that carries its proof is enough:
    the kernel only has to evaluate `isSome`. -/

abbrev Same (a b : α) : Type := Option (PLift (a = b))

namespace Same

def ofDec [DecidableEq α] (a b : α) : Same a b := if h : a = b then some ⟨h⟩ else none

def app (f : α → β) {a a' : α} (x : Same a a') : Same (f a) (f a') :=
  x.map fun h => ⟨congrArg f h.down⟩

def app₂ (f : α → β → γ) {a a' : α} {b b' : β} (x : Same a a') (y : Same b b') : Same (f a b) (f a' b') :=
  x.bind fun ha => y.map fun hb => ⟨congr (congrArg f ha.down) hb.down⟩

end Same

mutual
def sameV : (v w : Val) → Same v w
  | .int a, .int b => .app Val.int (.ofDec a b)
  | .str a, .str b => .app Val.str (.ofDec a b)
  | .none, .none => some ⟨rfl⟩
  | .inst c fs, .inst d gs => .app₂ Val.inst (.ofDec c d) (sameKV fs gs)
  | .list xs, .list ys => .app Val.list (sameL xs ys)
  | .dict kv, .dict kw => .app Val.dict (sameKV kv kw)
  | _, _ => none
def sameKV : (a b : List (Str × Val)) → Same a b
  | [], [] => some ⟨rfl⟩
  | (k, v) :: r, (k', v') :: r' => .app₂ cons (.app₂ Prod.mk (.ofDec k k') (sameV v v')) (sameKV r r')
  | _, _ => none
def sameL : (a b : List Val) → Same a b
  | [], [] => some ⟨rfl⟩
  | v :: r, v' :: r' => .app₂ cons (sameV v v') (sameL r r')
  | _, _ => none
end

theorem eq_ok_of_same (o : Out) (v : Val) (h : (match o with | .ok w => (sameV w v).isSome | _ => false) = true) :
    o = .ok v := by
  cases o with
  | ok w => exact congrArg Out.ok ((sameV w v).get h).down
  | raise _ => cases h
  | unmodelled _ => cases h

example : fromDict (resolve [mkCls "B" none (some false) [fInt "a"]]) (fun _ => []) 1 0
    (.obj [("a".toList, .int 5), ("zz".toList, .int 7)]) none = .ok (.inst 0 [("a".toList, .int 5)]) := eq_ok_of_same _ _ (by decide +kernel)

/-- the hypotheses under which an instance of a derived class `D` is loaded through its base `b` (flat, `int` fields).
    `names`: children extend parents — the field NAMES of the base are a prefix of those of the derived class (a child
    may redeclare an inherited field; its position is kept, see `inheritFields`); `extn` are the names `D` adds. -/
structure Derived (R : List RCls) (b D : Nat) (rb rD : RCls) (extn : List Str) : Prop where
  hb : R[b]? = some rb
  hD : R[D]? = some rD
  names : rD.fields.map (·.name) = rb.fields.map (·.name) ++ extn
  primB : ∀ f ∈ rb.fields, f.ty = .prim
  prim : ∀ f ∈ rD.fields, f.ty = .prim
  nodup : (rD.fields.map (·.name)).Nodup
  noTypeKey : typeKey ∉ rD.fields.map (·.name)

theorem Derived.keys (h : Derived R b D rb rD extn) (x : Str → Int) :
    DerivedKeys R b D rb rD extn (rawOf x rD.fields) :=
  ⟨h.hb, h.hD, h.names, rawOf_keys x _, h.nodup, lookupKey_eq_none (rawOf_keys x _ ▸ h.noTypeKey)⟩

theorem Derived.decodeBase (h : Derived R b D rb rD extn) {load : Nat → J → Option Bool → Out} (x : Str → Int) :
    decodeFields load false (rawOf x rD.fields) rb.fields = .ok (valOf x rb.fields) :=
  decodeFields_prim h.primB
    (fun _ hf => lookup_rawOf_name x (h.names ▸ mem_append_left _ (mem_map_of_mem hf)))

/-- the keys the candidate must have (serializable.py:880) when a `D` instance is loaded through `b`: the keys that are
    not fields of `b`, and those of `b`'s INIT fields (the `init=False` fields of `b` are consumed and not required) -/
def reqOf (R : List RCls) (b : Nat) (rb : RCls) (extn : List Str) (x : Str → Int) : List Str :=
  extn ++ ((valOf x rb.fields).map (·.1)).filter (fun k => (initNames R b).contains k)

theorem reqOf_eq_reqN (R : List RCls) (b : Nat) (rb : RCls) (extn : List Str) (x : Str → Int) :
    reqOf R b rb extn x = reqN R b rb extn := by
  rw [reqOf, valOf_keys, reqN]

/-- **Superset clause, end to end.**  Without identification, `b.from_dict(to_dict(d))` (subclass decoding in effect)
    RETURNS an instance — never `RuntimeError` — of a strict subclass `c` of the candidate set whose field-name set is
    EXACTLY that of `D` (so it has every serialized field), with every serialized value kept; for every order `π b`. -/
theorem c14_superset_result (R : List RCls) (π : Nat → List Nat) (fuel : Nat) (b D : Nat) (rb rD : RCls)
    (extn : List Str) (x : Str → Int) (drop : Option Bool)
    (h : Derived R b D rb rD extn) (hkeep : drop.getD (if rb.mixin then false else !rb.dis) = false) (hext : extn ≠ [])
    (hsubcls : ExtendBase R (π b) b) (hDπ : D ∈ π b) (hDb : D ≠ b) :
    ∃ c, c ∈ π b ∧ c ≠ b ∧ fieldNames R D ⊆ fieldNames R c ∧ fieldNames R c ⊆ fieldNames R D ∧
      ∀ rc, R[c]? = some rc → (∀ f ∈ rc.fields, f.ty = .prim) →
        fromDict R π (fuel + 2) b (encV R false (.inst D (valOf x rD.fields))) drop
          = .ok (.inst c (valOf x rc.fields)) := by
  obtain ⟨c, hcm, h1, h2, hstep⟩ := keep_picks π (fuel + 1) (h.keys x) hkeep hext
    (h.decodeBase x) (valOf_keys x _) hsubcls hDπ hDb
  have hcm := mem_filter.mp hcm
  refine ⟨c, hcm.1, of_decide_eq_true hcm.2, h1, h2, fun rc hrc hp => ?_⟩
  rw [fieldNames_eq h.hD, fieldNames_eq hrc] at h1 h2
  rw [enc_flat, hstep]
  exact load_flat π fuel x (some false) hrc hp h.noTypeKey h1 h2

/-- **Identified clause, end to end (full strength).**  `b.from_dict(to_dict(d), drop)` with subclass decoding in effect,
    `d` an instance of a derived class `D` — its extra fields init fields or not — returns `d` itself (class `D`, same
    values) whenever no other subclass of `b` has `D`'s field set; for every iteration order `π b` of the subclass set,
    i.e. every definition order / process history, and any number of classes. -/
theorem c14_identified (R : List RCls) (π : Nat → List Nat) (fuel : Nat) (b D : Nat) (rb rD : RCls)
    (extn : List Str) (x : Str → Int) (drop : Option Bool)
    (h : Derived R b D rb rD extn)
    (hkeep : drop.getD (if rb.mixin then false else !rb.dis) = false)
    (hext : extn ≠ [])
    (hsubcls : ExtendBase R (π b) b) (hDπ : D ∈ π b) (hDb : D ≠ b)
    (huniq : Identifies (fieldNames R) ((π b).filter (fun c => c ≠ b)) D) :
    fromDict R π (fuel + 2) b (encV R false (.inst D (valOf x rD.fields))) drop = .ok (.inst D (valOf x rD.fields)) := by
  rw [enc_flat]
  exact c14_identified_gen R π fuel b D rb rD extn _ drop _ _ _ (h.keys x) hkeep hext (h.decodeBase x) (valOf_keys x _)
    (decodeFields_prim h.prim (fun _ hf => lookup_rawOf_name x (mem_map_of_mem hf)))
    (construct_valOf x rD.fields) hsubcls hDπ hDb huniq

/-- **Order freedom, end to end**: two iteration orders of the subclass set (two process histories) give the same
    loaded instance in the identified case. -/
theorem c14_order_free_load (R : List RCls) (π₁ π₂ : Nat → List Nat) (fuel : Nat) (b D : Nat) (rb rD : RCls)
    (extn : List Str) (x : Str → Int) (drop : Option Bool)
    (h : Derived R b D rb rD extn) (hkeep : drop.getD (if rb.mixin then false else !rb.dis) = false) (hext : extn ≠ [])
    (hperm : (π₁ b).Perm (π₂ b)) (hsubcls : ExtendBase R (π₁ b) b) (hDπ : D ∈ π₁ b) (hDb : D ≠ b)
    (huniq : Identifies (fieldNames R) ((π₁ b).filter (fun c => c ≠ b)) D) :
    fromDict R π₁ (fuel + 2) b (encV R false (.inst D (valOf x rD.fields))) drop
      = fromDict R π₂ (fuel + 2) b (encV R false (.inst D (valOf x rD.fields))) drop := by
  rw [c14_identified R π₁ fuel b D rb rD extn x drop h hkeep hext hsubcls hDπ hDb huniq,
    c14_identified R π₂ fuel b D rb rD extn x drop h hkeep hext (fun c hc => hsubcls c (hperm.symm.subset hc))
      (hperm.subset hDπ) hDb (fun c hc => huniq c ((hperm.filter _).symm.subset hc))]

/-- **A derived class that adds no field** (its field names are its base's; also the load of an instance through its own
    class, `D = b`): whatever `drop_extra_fields`, the flags and the subclasses, the result is the class loaded
    through, with every value — the only class the serialized keys can tell. -/
theorem c14_same_fields (R : List RCls) (π : Nat → List Nat) (fuel : Nat) (b D : Nat) (rb rD : RCls)
    (x : Str → Int) (drop : Option Bool) (h : Derived R b D rb rD []) :
    fromDict R π (fuel + 1) b (encV R false (.inst D (valOf x rD.fields))) drop = .ok (.inst b (valOf x rb.fields)) := by
  have hn : rD.fields.map (·.name) = rb.fields.map (·.name) := h.names.trans (append_nil _)
  rw [enc_flat]
  exact load_flat π fuel x drop h.hb h.primB h.noTypeKey (hn ▸ Subset.refl _) (hn ▸ Subset.refl _)

/-! #### the hierarchy used by the examples and witnesses
    `B0(a)` ; `D1(B0)(x)` ; `D2(B0)(x, y)` ; `D3(B0)(n: init=False)` ; `Box(l: List[B0], f: B0, o: Optional[B0])` ;
    `D5(B0)(x, m: init=False)` (same INIT fields as `D1`, one more field) -/

def exH (dis : Bool) : List Cls :=
  [ mkCls "B0" none (some dis) [fInt "a"],
    mkCls "D1" (some 0) none [fInt "x"],
    mkCls "D2" (some 0) none [fInt "x", fInt "y"],
    mkCls "D3" (some 0) none [fInt "n" false],
    mkCls "Box" none none [⟨"l".toList, true, .list 0, some (.list [])⟩, ⟨"f".toList, true, .dc 0, some .none⟩,
                           ⟨"o".toList, true, .opt 0, some .none⟩],
    mkCls "D5" (some 0) none [fInt "x", fInt "m" false] ]

def exR (dis : Bool) : List RCls := resolve (exH dis)

/-- the hypotheses of `c14_identified` are satisfiable: `D1` through `B0`, candidates in the order `[5, 3, 2, 1]` -/
example : Derived (exR true) 0 1 ((exR true).getD 0 default) ((exR true).getD 1 default) ["x".toList] :=
  ⟨rfl, rfl, by decide +kernel, by decide +kernel, by decide +kernel, by decide +kernel, by decide +kernel⟩
example : ExtendBase (exR true) [5, 3, 2, 1] 0 := by
  unfold ExtendBase
  decide +kernel
example : Identifies (fieldNames (exR true)) ([5, 3, 2, 1].filter (fun c => c ≠ 0)) 1 :=
  identifies_of _ _ _ (by decide +kernel)
example : fromDict (exR true) (fun _ => [5, 3, 2, 1]) 2 0
    (encV (exR true) false (.inst 1 [("a".toList, .int 5), ("x".toList, .int 6)])) none
    = .ok (.inst 1 [("a".toList, .int 5), ("x".toList, .int 6)]) := eq_ok_of_same _ _ (by decide +kernel)

/-! ### regression examples for the repaired finding `C14-noninit-field-blocks-recovery` (fixed in /repo 9c31ab9 + the
    sort-key follow-up): the superset test looks at ALL fields of a candidate and the sort key is the number of fields -/

/-- `D3` adds only the init=False field `n`: its dict `{a, n}` loaded through `B0` comes back as `D3` (before the
    repair no candidate had `n` among its INIT fields and `B0(a=…, n=…)` raised `RuntimeError`) -/
example : fromDict (exR true) (fun _ => [1, 2, 3, 5]) 2 0
    (encV (exR true) false (.inst 3 [("a".toList, .int 7), ("n".toList, .int 8)])) none
    = .ok (.inst 3 [("a".toList, .int 7), ("n".toList, .int 8)]) := eq_ok_of_same _ _ (by decide +kernel)

/-- `D1(a, x)` and `D5(a, x, m: init=False)` have the same number of INIT fields; with the candidates sorted by their number
    of fields `D1`'s dict comes back as `D1` even when the set order lists `D5` first (with the old sort key the tie was
    broken by the set order and `D5` came back) -/
example : fromDict (exR true) (fun _ => [5, 1, 2, 3]) 2 0
    (encV (exR true) false (.inst 1 [("a".toList, .int 5), ("x".toList, .int 6)])) none
    = .ok (.inst 1 [("a".toList, .int 5), ("x".toList, .int 6)]) := eq_ok_of_same _ _ (by decide +kernel)

/-- … and `D5`'s own dict `{a, x, m}` comes back as `D5` -/
example : fromDict (exR true) (fun _ => [1, 5, 2, 3]) 2 0
    (encV (exR true) false (.inst 5 [("a".toList, .int 5), ("x".toList, .int 6), ("m".toList, .int 9)])) none
    = .ok (.inst 5 [("a".toList, .int 5), ("x".toList, .int 6), ("m".toList, .int 9)]) := eq_ok_of_same _ _ (by decide +kernel)

theorem load_typed {R : List RCls} {c : Nat} {rc : RCls} {fs : List (Str × Val)} (π : Nat → List Nat) (fuel b : Nat)
    (drop : Option Bool) (hc : R[c]? = some rc) (hloc : locate R rc.name = some c)
    (hnt : typeKey ∉ (encKV R true fs).map (·.1)) :
    fromDict R π (fuel + 1) b (encV R true (.inst c fs)) drop = fromDict R π fuel c (.obj (encKV R true fs)) drop := by
  have hloc' : locate R (nameOf R c) = some c := by rw [nameOf, hc]; exact hloc
  exact fromDict_typed π fuel b drop hloc' hnt

/-- **`save_dc_types`, top level.**  The serialized form of a (flat) instance of ANY class `D` written with
    `save_dc_types=True` is restored as exactly `D` with the same values when loaded through ANY class `b` with ANY
    `drop_extra_fields` — regardless of field sets, of the subclass set order, and of whether `D` derives from `b`. -/
theorem c14_dc_types_top (R : List RCls) (π : Nat → List Nat) (fuel : Nat) (b D : Nat) (rD : RCls)
    (x : Str → Int) (drop : Option Bool)
    (hD : R[D]? = some rD) (hloc : locate R rD.name = some D)
    (hprim : ∀ f ∈ rD.fields, f.ty = .prim) (hnt : typeKey ∉ rD.fields.map (·.name)) :
    fromDict R π (fuel + 2) b (encV R true (.inst D (valOf x rD.fields))) drop = .ok (.inst D (valOf x rD.fields)) := by
  refine (load_typed π (fuel + 1) b drop hD hloc ?_).trans ?_ <;> rw [encKV_valOf]
  · rw [rawOf_keys]; exact hnt
  · exact load_flat π fuel x drop hD hprim hnt (Subset.refl _) (Subset.refl _)

/-- e.g. the sibling-with-identical-fields case that plain loading cannot tell apart: `D1` written with its type,
    loaded through `B0` with `drop_extra_fields=True`, candidates in an order that would otherwise favour `D2`/`D3` -/
example : fromDict (exR true) (fun _ => [3, 2, 1]) 2 0
    (encV (exR true) true (.inst 1 [("a".toList, .int 5), ("x".toList, .int 6)])) (some true)
    = .ok (.inst 1 [("a".toList, .int 5), ("x".toList, .int 6)]) := eq_ok_of_same _ _ (by decide +kernel)

mutual
/-- fuel needed by `fromDict` on `to_dict(v, save_dc_types=True)`: two calls per instance level -/
def depth : Val → Nat
  | .inst _ fs => depthKV fs + 2
  | .list xs => depthL xs + 1
  | .dict kv => depthKV kv + 1
  | _ => 1
def depthKV : List (Str × Val) → Nat
  | [] => 0
  | (_, v) :: r => max (depth v) (depthKV r)
def depthL : List Val → Nat
  | [] => 0
  | v :: r => max (depth v) (depthL r)
end

mutual
/-- `okV R items v`: `v` is `None` or a well-formed instance tree over the class table `R` (fields in field order,
    `int` / dataclass / `Optional` / `List` / `Dict` values matching the annotations, class names resolvable, no field
    called `_type_`).  `items = false` additionally demands that `List[…]` / `Dict[str, …]` fields hold no elements:
    this is the named exclusion of the open finding `C14-D16-no-type-key-in-containers`. -/
def okV (R : List RCls) (items : Bool) : Val → Bool
  | .none => true
  | .inst c fs =>
    match R[c]? with
    | some rc => (locate R rc.name == some c) && !((rc.fields.map (·.name)).contains typeKey)
                 && okFields R items rc.fields fs
    | none => false
  | _ => false
def okFields (R : List RCls) (items : Bool) : List Field → List (Str × Val) → Bool
  | [], [] => true
  | f :: fs, (n, v) :: r =>
    (n == f.name) && !((r.map (·.1)).contains n) &&
    (match f.ty, v with
      | .prim, .int _ => true
      | .dc _, v => okV R items v
      | .opt _, v => okV R items v
      | .list _, .list xs => okL R items xs
      | .dict _, .dict kv => okD R items kv
      | _, _ => false) && okFields R items fs r
  | _, _ => false
def okL (R : List RCls) (items : Bool) : List Val → Bool
  | [] => true
  | v :: r => items && okV R items v && okL R items r
def okD (R : List RCls) (items : Bool) : List (Str × Val) → Bool
  | [] => true
  | (_, v) :: r => items && okV R items v && okD R items r
end

/-- the `save_dc_types` clause at full strength: every well-formed instance tree, instances inside containers included -/
def DcTypesFull : Prop :=
  ∀ (R : List RCls) (π : Nat → List Nat) (v : Val) (b : Nat) (drop : Option Bool),
    okV R true v = true → roundTrip R π (depth v) b v true drop = .ok v

/-- **Witness (D16).** `Box(l=[D1(a=5, x=6)])` written with `save_dc_types=True`: the list item gets no `_type_` key and
    comes back as a plain `B0` (here `B0` does not decode into subclasses; with identical siblings it comes back as
    whichever sibling the set order favours). -/
theorem c14_dc_types_witness : ¬ DcTypesFull := by
  intro h
  have h1 := h (exR false) (fun _ => [1, 2, 3]) (.inst 4 [("l".toList, .list [.inst 1 [("a".toList, .int 5), ("x".toList, .int 6)]]),
      ("f".toList, .none), ("o".toList, .none)]) 4 none (by decide +kernel)
  -- the class of the list item: `D1` went in, `B0` comes out
  exact absurd (congrArg (fun o => match o with | .ok (.inst _ ((_, .list (.inst c _ :: _)) :: _)) => c | _ => 0) h1)
    (by decide +kernel)

theorem okL_false {R : List RCls} {xs : List Val} (h : okL R false xs = true) : xs = [] := by
  cases xs with
  | nil => rfl
  | cons v r => cases h

theorem okD_false {R : List RCls} {kv : List (Str × Val)} (h : okD R false kv = true) : kv = [] := by
  cases kv with
  | nil => rfl
  | cons p r => cases h

theorem okV_inv {R : List RCls} {i : Bool} {v : Val} (h : okV R i v = true) :
    v = .none ∨ ∃ c fs rc, v = .inst c fs ∧ R[c]? = some rc ∧ locate R rc.name = some c ∧
      typeKey ∉ rc.fields.map (·.name) ∧ okFields R i rc.fields fs = true := by
  cases v with
  | none => exact .inl rfl
  | inst c fs =>
    rw [okV] at h
    split at h
    next rc hc =>
      simp only [Bool.and_eq_true, beq_iff_eq, not_contains_iff] at h
      exact .inr ⟨c, fs, rc, rfl, hc, h.1.1, h.1.2, h.2⟩
    next => cases h
  | _ => cases h

/-- what `okFields` demands of the first value itself is unfolded in `decodeField_enc` -/
theorem okFields_cons {R : List RCls} {i : Bool} {f : Field} {F : List Field} {n : Str} {v : Val} {r : List (Str × Val)}
    (h : okFields R i (f :: F) ((n, v) :: r) = true) :
    n = f.name ∧ n ∉ r.map (·.1) ∧ okFields R i F r = true := by
  unfold okFields at h
  simp only [Bool.and_eq_true, beq_iff_eq, not_contains_iff] at h
  exact ⟨h.1.1.1, h.1.1.2, h.2⟩

theorem okFields_names {R : List RCls} {i : Bool} {F : List Field} {fs : List (Str × Val)}
    (h : okFields R i F fs = true) : fs.map (·.1) = F.map (·.name) ∧ (fs.map (·.1)).Nodup := by
  induction F generalizing fs with
  | nil =>
    cases fs with
    | nil => exact ⟨rfl, nodup_nil⟩
    | cons p r => cases h
  | cons f F' ih =>
    cases fs with
    | nil => cases h
    | cons p r =>
      obtain ⟨hn, hnot, hr⟩ := okFields_cons h
      obtain ⟨h1, h2⟩ := ih hr
      exact ⟨by rw [map_cons, map_cons, hn, h1], nodup_cons.mpr ⟨hnot, h2⟩⟩

theorem depth_le_depthKV {fs : List (Str × Val)} {p : Str × Val} (hp : p ∈ fs) : depth p.2 ≤ depthKV fs := by
  induction fs with
  | nil => cases hp
  | cons q r ih =>
    obtain ⟨k, v⟩ := q
    rcases mem_cons.mp hp with rfl | hp
    · exact Nat.le_max_left _ _
    · exact Nat.le_trans (ih hp) (Nat.le_max_right _ _)

theorem decodeField_enc {R : List RCls} {load : Nat → J → Option Bool → Out} {e : Bool}
    {f : Field} {F : List Field} {n : Str} {v : Val} {r : List (Str × Val)}
    (h : okFields R false (f :: F) ((n, v) :: r) = true)
    (hload : okV R false v = true → ∀ c dr, load c (encV R true v) dr = .ok v) :
    decodeField load f.ty (encV R true v) e = .ok v := by
  unfold okFields at h
  simp only [Bool.and_eq_true] at h
  have hv := h.1.2
  clear h
  obtain ⟨fname, finit, ty, fdef⟩ := f
  dsimp only at hv ⊢
  -- one case per row of the table in `okFields`
  split at hv
  · rfl
  · exact hload hv _ (some e)
  next _ c =>
    have hl := hload hv c none
    rcases okV_inv hv with rfl | ⟨c', fs, rc, rfl, -⟩
    · rfl
    · rw [show encV R true (.inst c' fs) = .obj (_ :: encKV R true fs) from rfl] at hl ⊢
      unfold decodeField
      dsimp only
      rw [hl]
  · rw [okL_false hv]; rfl
  · rw [okD_false hv]; rfl
  · cases hv

theorem decodeFields_enc {R : List RCls} {load : Nat → J → Option Bool → Out} {e : Bool} {kv : List (Str × J)}
    {F : List Field} {fs : List (Str × Val)} (hok : okFields R false F fs = true)
    (hkv : ∀ p ∈ fs, lookupKey p.1 kv = some (encV R true p.2))
    (hload : ∀ p ∈ fs, okV R false p.2 = true → ∀ c dr, load c (encV R true p.2) dr = .ok p.2) :
    decodeFields load e kv F = .ok fs := by
  induction F generalizing fs with
  | nil =>
    cases fs with
    | nil => rfl
    | cons _ _ => cases hok
  | cons f F' ih =>
    cases fs with
    | nil => cases hok
    | cons p r =>
      obtain ⟨n, v⟩ := p
      obtain ⟨rfl, -, hr⟩ := okFields_cons hok
      obtain ⟨hkv0, hkvr⟩ := forall_mem_cons.mp hkv
      obtain ⟨hl0, hlr⟩ := forall_mem_cons.mp hload
      simp only [decodeFields, hkv0, decodeField_enc hok hl0, ih hr hkvr hlr]

/-- **`save_dc_types` at every nesting level (`_partial`).**  For every well-formed instance tree `v` of ANY depth whose
    `List`/`Dict` fields hold no elements (exclusion `okV R false`, finding D16), loading `to_dict(v, save_dc_types=True)`
    through ANY class with ANY `drop_extra_fields` and any subclass-set order restores `v` exactly — the exact class at
    every level reached through dataclass-annotated and `Optional` fields, regardless of field sets. -/
theorem c14_dc_types_partial (R : List RCls) (π : Nat → List Nat) (v : Val) (hok : okV R false v = true)
    (fuel : Nat) (hf : depth v ≤ fuel) (b : Nat) (drop : Option Bool) :
    fromDict R π fuel b (encV R true v) drop = .ok v := by
  -- an instance needs two calls (through `b`, then as its own class); its fields are loaded with the fuel that is left
  induction fuel using Nat.strongRecOn generalizing v b drop with | _ fuel ih => ?_
  rcases okV_inv hok with rfl | ⟨c, fs, rc, rfl, hc, hloc, hnt, hfs⟩
  · obtain ⟨f, rfl⟩ := Nat.exists_eq_add_of_le' hf
    rfl
  · have ⟨hnames, hnd⟩ := okFields_names hfs
    have hkeys : (encKV R true fs).map (·.1) = rc.fields.map (·.name) := (encKV_keys R true fs).trans hnames
    obtain ⟨f, rfl⟩ := Nat.exists_eq_add_of_le' (Nat.le_trans (Nat.le_add_left 2 _) hf)
    have hf' : depthKV fs ≤ f := Nat.le_of_add_le_add_right hf
    rw [load_typed π (f + 1) b drop hc hloc (hkeys ▸ hnt)]
    exact fromDict_construct (lookupKey_eq_none (hkeys ▸ hnt)) hc
      (decodeFields_enc hfs
        (fun p hp => lookupKey_of_mem _ (encKV_keys R true fs ▸ hnd) (p.1, encV R true p.2)
          (encKV_eq_map R true fs ▸ mem_map_of_mem hp))
        (fun p hp hv c' dr => ih f (Nat.lt_add_of_pos_right (by decide)) p.2 hv
          (Nat.le_trans (depth_le_depthKV hp) hf') c' dr))
      (.inl (hkeys ▸ Subset.refl _)) (construct_of_lookup hnames (lookupKey_of_mem fs hnd))

/-- the field loop of `from_dict` on the serialized fields of a well-formed instance -/
theorem dc_fields_partial (R : List RCls) (π : Nat → List Nat) (F : List Field) (fs : List (Str × Val))
    (hok : okFields R false F fs = true) (fuel : Nat) (hf : depthKV fs ≤ fuel) (kv : List (Str × J)) (e : Bool)
    (hkv : ∀ p ∈ fs, lookupKey p.1 kv = some (encV R true p.2)) :
    decodeFields (fun c j dr => fromDict R π fuel c j dr) e kv F = .ok fs :=
  decodeFields_enc hok hkv
    (fun p hp hv c dr => c14_dc_types_partial R π p.2 hv fuel (Nat.le_trans (depth_le_depthKV hp) hf) c dr)

/-- the hypotheses are satisfiable by a nested tree: `Box(l=[], f=D2(a,x,y), o=D1(a,x))` -/
example : okV (exR true) false (.inst 4 [("l".toList, .list []),
    ("f".toList, .inst 2 [("a".toList, .int 1), ("x".toList, .int 2), ("y".toList, .int 3)]),
    ("o".toList, .inst 1 [("a".toList, .int 4), ("x".toList, .int 5)])]) = true := by decide +kernel

theorem resolve_foldl (acc : List RCls) (h : List Cls) (c : Cls) :
    (h ++ [c]).foldl resolveStep acc = resolveStep (h.foldl resolveStep acc) c := by
  rw [foldl_append]
  rfl

theorem resolveStep_length (acc : List RCls) (c : Cls) : (resolveStep acc c).length = acc.length + 1 :=
  length_append

/-- earlier classes are never touched by a later definition (so the order of unrelated definitions is irrelevant) -/
theorem resolve_earlier_unchanged (acc : List RCls) (c : Cls) (i : Nat) (hi : i < acc.length) :
    (resolveStep acc c)[i]? = acc[i]? :=
  getElem?_append_left hi

theorem resolveStep_eq (acc : List RCls) (c : Cls) :
    ∃ r, resolveStep acc c = acc ++ [r] ∧
      (r.ancs = [] ∨ ∃ p rp, acc[p]? = some rp ∧ r.ancs = p :: rp.ancs ∧ r.fields = inheritFields rp.fields c.own) := by
  obtain ⟨name, parent, dis, own, frozen, mixin⟩ := c
  cases parent with
  | none => exact ⟨_, rfl, .inl rfl⟩
  | some p =>
    cases hp : acc[p]? with
    | none => exact ⟨_, rfl, .inl (by simp only [Option.bind_some, hp, Option.map_none])⟩
    | some rp =>
      exact ⟨_, rfl, .inr ⟨p, rp, hp, by simp only [Option.bind_some, hp, Option.map_some],
        by simp only [Option.bind_some, hp, Option.map_some]⟩⟩

/-- **`decode_into_subclasses` is inherited at definition time** (serializable.py:202-217): the class defined by the
    statement `c` on top of the classes `acc` gets its own stated value, else its parent's current value, else `False`. -/
theorem resolve_dis (acc : List RCls) (c : Cls) :
    ((resolveStep acc c)[acc.length]?).map (·.dis)
      = some (c.dis.getD (match c.parent.bind (fun p => acc[p]?) with | some rp => rp.dis | none => false)) := by
  rw [resolveStep, getElem?_concat_length]
  cases c.parent with
  | none => rfl
  | some q => cases hq : acc[q]? <;> simp only [Option.map_some, Option.bind_some, hq, Option.map_none]

/-- the field NAMES of a class: its parent's names, then the new names (a redeclared field keeps its place) -/
theorem inheritFields_names (pf own : List Field) :
    (inheritFields pf own).map (·.name)
      = pf.map (·.name) ++ (own.filter (fun g => !(pf.map (·.name)).contains g.name)).map (·.name) := by
  rw [inheritFields, map_append, map_map]
  congr 1
  refine map_congr_left (fun f _ => ?_)
  cases hfind : own.find? (fun g => g.name == f.name) with
  | none => simp only [Function.comp, hfind]
  | some g => simpa only [Function.comp, hfind, beq_iff_eq] using find?_some hfind

/-- what `resolve` guarantees about every class and each of its (strict) ancestors -/
def TableInv (R : List RCls) : Prop :=
  ∀ (i : Nat) (r : RCls), R[i]? = some r → ∀ a ∈ r.ancs, ∃ ra : RCls, R[a]? = some ra ∧ a < i ∧
    (ra.fields.map (·.name)) <+: (r.fields.map (·.name))

theorem tableInv_step (acc : List RCls) (c : Cls) (hinv : TableInv acc) : TableInv (resolveStep acc c) := by
  obtain ⟨r, hr, hcase⟩ := resolveStep_eq acc c
  rw [hr]
  -- every ancestor of the new entry is an earlier class whose field names it extends
  have hnew : ∀ a ∈ r.ancs, ∃ ra, acc[a]? = some ra ∧ (ra.fields.map (·.name)) <+: (r.fields.map (·.name)) := by
    rcases hcase with h0 | ⟨p, rp, hp, hancs, hflds⟩
    · intro a ha; rw [h0] at ha; cases ha
    · have hnames : (rp.fields.map (·.name)) <+: (r.fields.map (·.name)) := by
        rw [hflds, inheritFields_names]; exact prefix_append _ _
      intro a ha
      rcases mem_cons.mp (hancs ▸ ha) with rfl | ha'
      · exact ⟨rp, hp, hnames⟩
      · obtain ⟨ra, h1, _, h3⟩ := hinv p rp hp a ha'
        exact ⟨ra, h1, h3.trans hnames⟩
  have hold : ∀ {j : Nat} {rj : RCls}, acc[j]? = some rj → j < acc.length ∧ (acc ++ [r])[j]? = some rj := fun h =>
    have hj := (List.getElem?_eq_some_iff.mp h).1
    ⟨hj, (getElem?_append_left hj).trans h⟩
  intro i ri hi a ha
  rcases Nat.lt_or_ge i acc.length with hlt | hge
  · rw [getElem?_append_left hlt] at hi
    obtain ⟨ra, h1, h2, h3⟩ := hinv i ri hi a ha
    exact ⟨ra, (hold h1).2, h2, h3⟩
  · rw [getElem?_append_right hge, getElem?_singleton] at hi
    split at hi
    · cases hi
      obtain ⟨ra, h1, h3⟩ := hnew a ha
      exact ⟨ra, (hold h1).2, Nat.lt_of_lt_of_le (hold h1).1 hge, h3⟩
    · cases hi

theorem tableInv_foldl (h : List Cls) (acc : List RCls) (hinv : TableInv acc) : TableInv (h.foldl resolveStep acc) := by
  induction h generalizing acc with
  | nil => exact hinv
  | cons c cs ih => exact ih _ (tableInv_step acc c hinv)

/-- **Children extend parents, for every table and every definition order**: in `resolve h` each strict ancestor of a
    class is defined earlier and its field names are a prefix of the class's field names. -/
theorem resolve_fields_prefix (h : List Cls) : TableInv (resolve h) :=
  tableInv_foldl h [] (fun _ _ hi => nomatch hi)

/-- `all_subclasses(b)` in the model: exactly the classes that have `b` among their strict ancestors -/
theorem mem_descendants_iff (R : List RCls) (b i : Nat) :
    i ∈ descendants R b ↔ ∃ r, R[i]? = some r ∧ b ∈ r.ancs := by
  rw [descendants, mem_filter, mem_range]
  cases hr : R[i]? with
  | none =>
    refine ⟨fun h => Bool.noConfusion h.2, fun h => ?_⟩
    obtain ⟨_, h, _⟩ := h
    cases h
  | some r =>
    refine ⟨fun h => ⟨r, rfl, contains_iff_mem.mp h.2⟩, fun h => ?_⟩
    obtain ⟨_, h, hb⟩ := h
    exact ⟨(List.getElem?_eq_some_iff.mp hr).1, contains_iff_mem.mpr (Option.some.inj h ▸ hb)⟩

/-- **Identified clause over a class table.**  `R = resolve h` for ANY list of class statements `h` (any hierarchy shape,
    any definition order), `π b` ANY enumeration of `descendants R b` (the set `all_subclasses(b)`), `D` any descendant of
    `b` that adds a field: the hypotheses `Derived.names`, `ExtendBase`, `D ∈ π b`, `D ≠ b` of `c14_identified` are
    DERIVED from the table. -/
theorem c14_identified_table (h : List Cls) (π : Nat → List Nat) (fuel : Nat) (b D : Nat) (rb rD : RCls)
    (x : Str → Int) (drop : Option Bool)
    (hb : (resolve h)[b]? = some rb) (hD : (resolve h)[D]? = some rD)
    (hdesc : D ∈ descendants (resolve h) b) (hπ : (π b).Perm (descendants (resolve h) b))
    (hadds : rD.fields.map (·.name) ≠ rb.fields.map (·.name))
    (hpb : ∀ f ∈ rb.fields, f.ty = .prim) (hpD : ∀ f ∈ rD.fields, f.ty = .prim)
    (hnd : (rD.fields.map (·.name)).Nodup) (hnt : typeKey ∉ rD.fields.map (·.name))
    (hkeep : drop.getD (if rb.mixin then false else !rb.dis) = false)
    (huniq : Identifies (fieldNames (resolve h)) ((π b).filter (fun c => c ≠ b)) D) :
    fromDict (resolve h) π (fuel + 2) b (encV (resolve h) false (.inst D (valOf x rD.fields))) drop
      = .ok (.inst D (valOf x rD.fields)) := by
  -- a descendant `c` of `b` is defined later and its field names extend those of `b`
  have hext : ∀ c ∈ descendants (resolve h) b, ∃ rc, (resolve h)[c]? = some rc ∧ b < c ∧
      (rb.fields.map (·.name)) <+: (rc.fields.map (·.name)) := by
    intro c hc
    obtain ⟨rc, hrc, hbc⟩ := (mem_descendants_iff _ b c).mp hc
    obtain ⟨rb', hrb', hlt, hpre⟩ := resolve_fields_prefix h c rc hrc b hbc
    exact ⟨rc, hrc, hlt, Option.some.inj (hrb'.symm.trans hb) ▸ hpre⟩
  obtain ⟨rD', hD', hlt, extn, hextn⟩ := hext D hdesc
  cases hD.symm.trans hD'
  refine c14_identified (resolve h) π fuel b D rb rD extn x drop ⟨hb, hD, hextn.symm, hpb, hpD, hnd, hnt⟩ hkeep
    (fun he => hadds (by rw [← hextn, he, append_nil])) ?_ (hπ.symm.subset hdesc) (Nat.ne_of_gt hlt) huniq
  intro c hc k hk
  obtain ⟨rc, hrc, -, hpre⟩ := hext c (hπ.subset hc)
  rw [fieldNames_eq hb] at hk
  rw [fieldNames_eq hrc]
  exact hpre.subset hk

/-- the hypotheses of `c14_identified_table` are satisfiable on the example table: `D1` is a descendant of `B0`, and the
    set order `[5, 3, 2, 1]` enumerates `descendants` -/
example : 1 ∈ descendants (exR true) 0 ∧ ([5, 3, 2, 1] : List Nat).Perm (descendants (exR true) 0) := by decide +kernel
example : exR true = resolve (exH true) := rfl

/-! ### repaired finding `C14-frozen-noninit-setattr` (/repo 6aeb5e3: `object.__setattr__` for the init=False values):
    a frozen dataclass with an `init=False` field loads like any other -/

def exFrozen : List RCls := resolve
  [ mkCls "F0" none (some true) [fInt "a"] true,
    mkCls "F2" (some 0) none [fInt "n" false] true,
    mkCls "F3" (some 0) none [fInt "x"] true ]

/-- **Loading the serialized form of an instance through its own class gives it back** — any class (frozen or not, init=False
    fields or not), any `drop_extra_fields`, any subclasses, any set order.  (Before the repair this full statement was
    refuted by `F2` below: `setattr` raised `FrozenInstanceError`.) -/
theorem c14_load_through_self (R : List RCls) (π : Nat → List Nat) (fuel : Nat) (b : Nat) (rb : RCls) (x : Str → Int)
    (drop : Option Bool) (hb : R[b]? = some rb) (hp : ∀ f ∈ rb.fields, f.ty = .prim)
    (hnt : typeKey ∉ rb.fields.map (·.name)) :
    fromDict R π (fuel + 1) b (encV R false (.inst b (valOf x rb.fields))) drop = .ok (.inst b (valOf x rb.fields)) := by
  rw [enc_flat]
  exact load_flat π fuel x drop hb hp hnt (Subset.refl _) (Subset.refl _)

/-- regression: `F2` (frozen, adds `n: init=False`) through itself and through its base `F0` -/
example : fromDict exFrozen (fun _ => [1, 2]) 2 1
    (encV exFrozen false (.inst 1 [("a".toList, .int 7), ("n".toList, .int 8)])) none
    = .ok (.inst 1 [("a".toList, .int 7), ("n".toList, .int 8)]) := eq_ok_of_same _ _ (by decide +kernel)
example : fromDict exFrozen (fun _ => [1, 2]) 3 0
    (encV exFrozen false (.inst 1 [("a".toList, .int 7), ("n".toList, .int 8)])) none
    = .ok (.inst 1 [("a".toList, .int 7), ("n".toList, .int 8)]) := eq_ok_of_same _ _ (by decide +kernel)
example : fromDict exFrozen (fun _ => [1, 2]) 3 0
    (encV exFrozen false (.inst 2 [("a".toList, .int 7), ("x".toList, .int 8)])) none
    = .ok (.inst 2 [("a".toList, .int 7), ("x".toList, .int 8)]) := eq_ok_of_same _ _ (by decide +kernel)

/-! ### open finding `C14-nested-drop-forwarding`: a field annotated with a dataclass is decoded with the CONTAINER's
    resolved `drop_extra_fields` (decoding.py:147-149), Optional/List/Dict items by the item class's own flag -/

/-- "a dataclass-annotated field is decoded by its own class's `decode_into_subclasses`, like an Optional/List item" -/
def NestedOwnFlag : Prop :=
  ∀ (R : List RCls) (π : Nat → List Nat) (fuel : Nat) (c : Nat) (j : J) (e : Bool),
    decodeField (fun c j dr => fromDict R π fuel c j dr) (.dc c) j e = fromDict R π fuel c j none

/-- **Witness.** `Box(f: B0, o: Optional[B0], l: List[B0])`, `B0` decodes into subclasses, `Box` does not, all three hold
    `D1(5, 6)`: `Box.from_dict(d)` gives `f = B0(a=5)` (x lost) but `o = D1`, `l = [D1]`. -/
theorem c14_nested_forwarding_witness : ¬ NestedOwnFlag := by
  intro h
  have h1 := h (exR true) (fun _ => [1, 2, 3, 5]) 3 0 (.obj [("a".toList, .int 5), ("x".toList, .int 6)]) true
  -- the class that comes back: `B0` for the field, `D1` for the plain load
  exact absurd (congrArg (fun o => match o with | .ok (.inst c _) => c | _ => 0) h1) (by decide +kernel)
example : fromDict (exR true) (fun _ => [1, 2, 3, 5]) 6 4
    (encV (exR true) false (.inst 4 [("l".toList, .list [.inst 1 [("a".toList, .int 5), ("x".toList, .int 6)]]),
      ("f".toList, .inst 1 [("a".toList, .int 5), ("x".toList, .int 6)]),
      ("o".toList, .inst 1 [("a".toList, .int 5), ("x".toList, .int 6)])])) none
    = .ok (.inst 4 [("l".toList, .list [.inst 1 [("a".toList, .int 5), ("x".toList, .int 6)]]),
      ("f".toList, .inst 0 [("a".toList, .int 5)]),
      ("o".toList, .inst 1 [("a".toList, .int 5), ("x".toList, .int 6)])]) := eq_ok_of_same _ _ (by decide +kernel)

/-! the set order decides between two siblings with the same field set — on `fromDict`, not only on `pick` -/
example : fromDict (resolve [mkCls "B" none (some true) [fInt "a"], mkCls "E1" (some 0) none [fInt "x"],
      mkCls "E2" (some 0) none [fInt "x"]]) (fun _ => [1, 2]) 3 0 (.obj [("a".toList, .int 1), ("x".toList, .int 2)]) none
    = .ok (.inst 1 [("a".toList, .int 1), ("x".toList, .int 2)]) := eq_ok_of_same _ _ (by decide +kernel)
example : fromDict (resolve [mkCls "B" none (some true) [fInt "a"], mkCls "E1" (some 0) none [fInt "x"],
      mkCls "E2" (some 0) none [fInt "x"]]) (fun _ => [2, 1]) 3 0 (.obj [("a".toList, .int 1), ("x".toList, .int 2)]) none
    = .ok (.inst 2 [("a".toList, .int 1), ("x".toList, .int 2)]) := eq_ok_of_same _ _ (by decide +kernel)

/-! a child that REDECLARES an inherited field keeps the field's position (`dataclasses.fields`), and loading through
    `Serializable` itself always decodes into subclasses -/
example : ((resolve [mkCls "R0" none (some true) [fInt "a", fInt "b"], mkCls "R1" (some 0) none [fInt "a", fInt "c"]]).getD 1
    default).fields.map (·.name) = ["a".toList, "b".toList, "c".toList] := by decide +kernel
example : fromDict (resolve [mkCls "Serializable" none none [] false true, mkCls "B" (some 0) none [fInt "a"],
      mkCls "E1" (some 1) none [fInt "x"]]) (fun _ => [1, 2]) 3 0 (.obj [("a".toList, .int 1), ("x".toList, .int 2)]) none
    = .ok (.inst 2 [("a".toList, .int 1), ("x".toList, .int 2)]) := eq_ok_of_same _ _ (by decide +kernel)

/-- the conclusion of `c14_identified_gen` on nested content: `P(f: B0)` ; `Q(P)(l: List[B0], k)`.  A `Q` holding a `D1` in
    its dataclass field and in its list, loaded through `P`, comes back as `Q` with every value. -/
def exG : List RCls := resolve
  [ mkCls "B0" none (some true) [fInt "a"],
    mkCls "D1" (some 0) none [fInt "x"],
    mkCls "P" none (some true) [⟨"f".toList, true, .dc 0, some .none⟩],
    mkCls "Q" (some 2) none [⟨"l".toList, true, .list 0, some (.list [])⟩, fInt "k"] ]

example : fromDict exG (fun c => if c = 2 then [3] else [1]) 6 2
    (encV exG false (.inst 3 [("f".toList, .inst 1 [("a".toList, .int 1), ("x".toList, .int 2)]),
      ("l".toList, .list [.inst 1 [("a".toList, .int 3), ("x".toList, .int 4)]]), ("k".toList, .int 9)])) none
    = .ok (.inst 3 [("f".toList, .inst 1 [("a".toList, .int 1), ("x".toList, .int 2)]),
      ("l".toList, .list [.inst 1 [("a".toList, .int 3), ("x".toList, .int 4)]]), ("k".toList, .int 9)]) := eq_ok_of_same _ _ (by decide +kernel)

end SpVerif.C14
