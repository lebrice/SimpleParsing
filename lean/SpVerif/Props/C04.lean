/-
  C04 — Invalid command lines are rejected with a non-zero exit; results are well-typed.

  Theorems about `Model/Engine` (argparse's optional-argument engine as simple-parsing uses it),
  quantified over EVERY argv and every action table, plus the rejection lemmas for each mutation
  class of the property's quantifier.

  1: every outcome of a parse accounted for (status, dead escape hatches, status 0 needs a help
  token).  2-5: rejection theorems over ARBITRARY command lines through the one-step
  characterisation of the loop (`Lemmas/C04Step`), the alignment of the `parse_tuple` counters, the
  lexer's verdict derived from the spelling.  6-7: engine-stage soundness, no traceback, rejected =
  status 2.  8-9: the action's shape per annotation, conformance to the ANNOTATION through the whole
  flat pipeline (`c04_conforms_flat`), no traceback incl. `postprocess`
  (`c04_no_traceback_pipeline`).  10: witnesses and non-vacuity.
-/
import SpVerif.Lemmas.Core
import SpVerif.Lemmas.Engine
import SpVerif.Lemmas.EngineMore
import SpVerif.Lemmas.C04Step
import SpVerif.Model.Fields
import SpVerif.Lemmas.Fields
import SpVerif.Lemmas.Lit
namespace SpVerif.C04
open SpVerif SpVerif.Loop

/-! ### 1. every outcome of a parse accounted for -/

/-- an entry of `_option_string_actions` is an option string of the action with that index -/
theorem mem_optTable_idx {tbl : List Act} {o : Str} {i : Nat} (h : (o, i) ∈ optTable tbl) :
    ∃ act, tbl[i]? = some act ∧ o ∈ act.opts := by
  unfold optTable at h
  rw [List.mem_flatMap] at h
  obtain ⟨⟨a, j⟩, haj, hp⟩ := h
  rw [List.mem_map] at hp
  obtain ⟨o', ho', heq⟩ := hp
  simp only [Prod.mk.injEq] at heq
  obtain ⟨rfl, rfl⟩ := heq
  exact ⟨a, List.mem_zipIdx_iff_getElem?.mp haj, ho'⟩

theorem optionTuples_mem {ot : List (Str × Nat)} {arg : Str} {x : Nat × Str × Option Str}
    (h : x ∈ optionTuples ot arg) : (x.2.1, x.1) ∈ ot := by
  unfold optionTuples at h
  split at h
  · simp only [List.mem_map, List.mem_filter] at h
    obtain ⟨p, ⟨hp, _⟩, rfl⟩ := h
    exact hp
  · simp only [List.mem_filterMap] at h
    obtain ⟨p, hp, hx⟩ := h
    split at hx
    · simp only [Option.some.injEq] at hx; subst hx; exact hp
    · split at hx
      · simp only [Option.some.injEq] at hx; subst hx; exact hp
      · cases hx
  · cases h

/-- **the lexer only attaches tokens to real actions**: an owned option token carries an option
    string of the action it names -/
theorem classify_O_sound {tbl : List Act} {arg : Str} {i : Nat} {o : Str} {ex : Option Str}
    (h : classify tbl arg = .ok (.O (some i) o ex)) : (o, i) ∈ optTable tbl := by
  unfold classify at h
  cases arg with
  | nil => cases h
  | cons c cs =>
    by_cases hc : c = '-'
    · simp only [hc, ne_eq, not_true_eq_false, ↓reduceIte] at h
      cases hl : (optTable tbl).lookup ('-' :: cs) with
      | some j =>
        simp only [hl, Except.ok.injEq, Tok.O.injEq, Option.some.injEq] at h
        obtain ⟨rfl, rfl, _⟩ := h
        exact lookup_mem hl
      | none =>
        simp only [hl] at h
        by_cases hlen : ('-' :: cs).length = 1
        · simp only [hlen, ↓reduceIte] at h; cases h
        · simp only [hlen, ↓reduceIte] at h
          split at h
          · -- `opt=value` with `opt` an exact option string
            rename_i t ht
            cases h
            split at ht
            · split at ht
              · rename_i j hl2
                cases ht
                exact lookup_mem hl2
              · cases ht
            · cases ht
          · -- otherwise only a unique abbreviation is owned
            split at h
            · cases h
            · rename_i j o' e' hot
              cases h
              exact optionTuples_mem (x := (i, o, ex)) (hot ▸ List.mem_cons_self)
            · split at h
              · cases h
              · split at h <;> cases h
    · simp only [ne_eq, hc, not_false_eq_true, ↓reduceIte] at h; cases h

/-- the ways `run` ends without a namespace: an ambiguous abbreviation; in the final pass, a
    required option that was not given or a string default that its `type=` does not convert; in
    the loop, at an option token of the command line that an action of the table owns — a help
    request (or a value on it), a wrong number of arguments, or a failed `take_action` -/
def RunErr (fenv : FEnv) (tbl : List Act) (argv : List Str) (e : EOut) : Prop :=
  e = .exit 2 .ambiguous ∨ e = .exit 2 .required ∨ (∃ a ∈ tbl, DefaultErr fenv a e) ∨
  ∃ toks a i o ex act, lexAll tbl argv = .ok toks ∧ (a, Tok.O (some i) o ex) ∈ argv.zip toks ∧
    tbl[i]? = some act ∧
    ((act.kind = .help ∧
        (e = .exit 0 .help ∨ e = .exit 2 .explicit ∨ e = .unmodelled "single-dash cluster")) ∨
     (act.kind ≠ .help ∧ (e = .exit 2 .nargs ∨ ActErr fenv act e)))

/-- the loop never runs out of fuel: `run` hands it `argv.length + 1` -/
theorem consume_fuel (fenv : FEnv) (tbl : List Act) (fuel : Nat) (st : St) (l : List (Str × Tok))
    (hl : l.length ≤ fuel) : consume fenv tbl fuel st l ≠ .error (.unmodelled "fuel") := by
  intro h
  obtain ⟨a, i, o, ex, _, herr⟩ := consume_err_trace hl h
  rcases herr with ⟨_, h1⟩ | ⟨act, _, ⟨_, h1 | h1 | h1⟩ |
    ⟨_, h1 | (h1 | h1 | ⟨_, _, _, _, h1⟩ | h1) | ⟨_, _, h1 | ⟨h1, _⟩⟩⟩⟩
  · exact absurd h1 (by decide +kernel)
  · cases h1
  · cases h1
  · exact absurd h1 (by decide +kernel)
  · cases h1
  · cases h1
  · cases h1
  · cases h1
  · exact absurd h1 (by decide +kernel)
  · cases h1
  · cases h1

/-- **every outcome of `run`**: a namespace — after a successful loop and a successful final pass —
    or one of the failures `RunErr` lists.  The `fuel` bound of the loop and the `bad action index`
    branches are unreachable: the loop always has enough fuel and the lexer only emits indices of
    real actions. -/
theorem run_outcome (fenv : FEnv) (tbl : List Act) (cs : List Nat) (argv : List Str) :
    (∃ toks st st2, lexAll tbl argv = .ok toks ∧
      consume fenv tbl (argv.length + 1) ⟨initNs tbl, [], [], cs⟩ (argv.zip toks) = .ok st ∧
      finish fenv tbl st tbl.zipIdx = .ok st2 ∧
      run fenv tbl cs argv = .ok st2.ns st2.extras st2.counters) ∨
    RunErr fenv tbl argv (run fenv tbl cs argv) := by
  rcases run_cases fenv tbl cs argv with ⟨_, hr⟩ | ⟨toks, hlex, ⟨e, hc, hr⟩ | ⟨st, hc, ⟨e, hf, hr⟩ | ⟨st2, hf, hr⟩⟩⟩
  · exact Or.inr (Or.inl hr)
  · right; right; right; right
    rw [hr]
    have hlen : (argv.zip toks).length ≤ argv.length + 1 :=
      List.length_zip ▸ Nat.le_succ_of_le (Nat.min_le_left _ _)
    obtain ⟨a, i, o, ex, hm, herr⟩ := consume_err_trace hlen hc
    -- the lexer only emits indices of real actions
    obtain ⟨_, _, hcl⟩ := lexAll_O_inv hlex (List.of_mem_zip hm).2
    obtain ⟨act, hact, _⟩ := mem_optTable_idx (classify_O_sound hcl)
    refine ⟨toks, a, i, o, ex, act, hlex, hm, hact, ?_⟩
    rcases herr with ⟨hnone, _⟩ | ⟨act', hact', hcase⟩
    · rw [hact] at hnone; cases hnone
    · rw [hact] at hact'; cases hact'
      exact hcase
  · right
    rw [hr]
    rcases finish_err_inv hf with he | ⟨p, hp, he⟩
    · exact Or.inr (Or.inl he)
    · exact Or.inr (Or.inr (Or.inl ⟨p.1, List.fst_mem_of_mem_zipIdx hp, he⟩))
  · exact Or.inl ⟨toks, st, st2, hlex, hc, hf, hr⟩

theorem RunErr.not_ok {fenv : FEnv} {tbl : List Act} {argv : List Str} {ns : List (Str × Val)}
    {ex : List Str} {cs : List Nat} : ¬ RunErr fenv tbl argv (.ok ns ex cs) := by
  rintro (h | h | ⟨_, _, h | ⟨_, _, _, _, h⟩ | h⟩ | ⟨_, _, _, _, _, _, _, _, _, h⟩)
  · cases h
  · cases h
  · cases h
  · cases h
  · cases h
  · rcases h with ⟨_, h | h | h⟩ | ⟨_, h | (h | h | ⟨_, _, _, _, h⟩ | h) | ⟨_, _, h | ⟨h, _⟩⟩⟩ <;> cases h

theorem run_ok_inv {fenv : FEnv} {tbl : List Act} {cs : List Nat} {argv : List Str}
    {ns : List (Str × Val)} {ex : List Str} {cs' : List Nat}
    (h : run fenv tbl cs argv = .ok ns ex cs') :
    ∃ toks st st2, lexAll tbl argv = .ok toks ∧
      consume fenv tbl (argv.length + 1) ⟨initNs tbl, [], [], cs⟩ (argv.zip toks) = .ok st ∧
      finish fenv tbl st tbl.zipIdx = .ok st2 ∧ ns = st2.ns ∧ ex = st2.extras ∧
      cs' = st2.counters := by
  rcases run_outcome fenv tbl cs argv with ⟨toks, st, st2, hlex, hc, hf, hr⟩ | herr
  · rw [h] at hr
    cases hr
    exact ⟨toks, st, st2, hlex, hc, hf, rfl, rfl, rfl⟩
  · rw [h] at herr
    exact absurd herr RunErr.not_ok

/-- `parse_args` is `parse_known_args`, except that leftovers are an error -/
theorem runStrict_cases (fenv : FEnv) (tbl : List Act) (cs : List Nat) (argv : List Str) :
    (runStrict fenv tbl cs argv = run fenv tbl cs argv ∧
      ∀ ns x xs cs', run fenv tbl cs argv ≠ .ok ns (x :: xs) cs') ∨
    (runStrict fenv tbl cs argv = .exit 2 .unrecognized ∧
      ∃ ns x xs cs', run fenv tbl cs argv = .ok ns (x :: xs) cs') := by
  unfold runStrict
  cases run fenv tbl cs argv with
  | ok ns ex cs' =>
    cases ex with
    | nil => exact Or.inl ⟨rfl, fun _ _ _ _ h => nomatch h⟩
    | cons x xs => exact Or.inr ⟨rfl, ns, x, xs, cs', rfl⟩
  | exit c k => exact Or.inl ⟨rfl, fun _ _ _ _ h => nomatch h⟩
  | raise e => exact Or.inl ⟨rfl, fun _ _ _ _ h => nomatch h⟩
  | unmodelled w => exact Or.inl ⟨rfl, fun _ _ _ _ h => nomatch h⟩

theorem runStrict_err {fenv : FEnv} {tbl : List Act} {cs : List Nat} {argv : List Str} {e : EOut}
    (h : runStrict fenv tbl cs argv = e) (hne : e ≠ .exit 2 .unrecognized)
    (hok : ∀ ns ex cs', e ≠ .ok ns ex cs') : RunErr fenv tbl argv e := by
  rcases runStrict_cases fenv tbl cs argv with ⟨heq, _⟩ | ⟨heq, _⟩
  · rcases run_outcome fenv tbl cs argv with ⟨_, _, _, _, _, _, hr⟩ | herr
    · rw [← heq, h] at hr; exact absurd hr (hok _ _ _)
    · rwa [← heq, h] at herr
  · rw [h] at heq; exact absurd heq hne

theorem runStrict_ok_inv {fenv : FEnv} {tbl : List Act} {cs : List Nat} {argv : List Str}
    {ns : List (Str × Val)} {ex : List Str} {cs' : List Nat}
    (h : runStrict fenv tbl cs argv = .ok ns ex cs') :
    ∃ toks st st2, lexAll tbl argv = .ok toks ∧
      consume fenv tbl (argv.length + 1) ⟨initNs tbl, [], [], cs⟩ (argv.zip toks) = .ok st ∧
      finish fenv tbl st tbl.zipIdx = .ok st2 ∧ st.extras = [] ∧ ns = st2.ns ∧
      cs' = st2.counters := by
  rcases runStrict_cases fenv tbl cs argv with ⟨heq, hnil⟩ | ⟨heq, _⟩
  · rw [heq] at h
    obtain ⟨toks, st, st2, hlex, hc, hf, rfl, rfl, rfl⟩ := run_ok_inv h
    refine ⟨toks, st, st2, hlex, hc, hf, ?_, rfl, rfl⟩
    rw [← (finish_ok_inv hf).1]
    cases hex : st2.extras with
    | nil => rfl
    | cons x xs => rw [hex] at h; exact absurd h (hnil _ _ _ _)
  · rw [heq] at h; cases h

/-- an exit among the failures has status 2 — or status 0, and then it is the help request of a
    token of the command line that a help action owns -/
theorem RunErr.exit {fenv : FEnv} {tbl : List Act} {argv : List Str} {c : Nat} {k : ExitKind}
    (h : RunErr fenv tbl argv (.exit c k)) :
    c = 2 ∨ (c = 0 ∧ k = .help ∧ ∃ toks a i o ex act, lexAll tbl argv = .ok toks ∧
      (a, Tok.O (some i) o ex) ∈ argv.zip toks ∧ tbl[i]? = some act ∧ act.kind = .help) := by
  rcases h with he | he | ⟨_, _, he | ⟨_, _, _, _, he⟩ | he⟩ |
    ⟨toks, a, i, o, ex, act, hlex, hm, hact, hcase⟩
  · cases he; exact Or.inl rfl
  · cases he; exact Or.inl rfl
  · cases he; exact Or.inl rfl
  · cases he
  · cases he
  · rcases hcase with ⟨hk, he | he | he⟩ | ⟨_, he | he⟩
    · cases he; exact Or.inr ⟨rfl, rfl, toks, a, i, o, ex, act, hlex, hm, hact, hk⟩
    · cases he; exact Or.inl rfl
    · cases he
    · cases he; exact Or.inl rfl
    · rcases he with (he | he | ⟨_, _, _, _, he⟩ | he) | ⟨_, _, he | ⟨he, _⟩⟩ <;> cases he <;>
        exact Or.inl rfl

/-- **C04 (status).** For EVERY action table and EVERY argv, the engine either returns a
    namespace, or exits with status 2, or exits with status 0 for a help request — there is no
    other exit status and no "message but status 0" path. (True after the repair of the negative
    flag defect; before it `--noflag=true` exited 0.) -/
theorem c04_status (fenv : FEnv) (tbl : List Act) (cs : List Nat) (argv : List Str) (c : Nat)
    (k : ExitKind) (h : runStrict fenv tbl cs argv = .exit c k) :
    c = 2 ∨ (c = 0 ∧ k = .help ∧ ∃ a ∈ tbl, a.kind = .help) := by
  by_cases hun : EOut.exit c k = .exit 2 .unrecognized
  · cases hun; exact Or.inl rfl
  · refine (RunErr.exit (runStrict_err h hun (fun _ _ _ => nofun))).imp_right ?_
    rintro ⟨h0, hk, _, _, i, _, _, act, _, _, hact, hkind⟩
    exact ⟨h0, hk, act, List.mem_of_getElem? hact, hkind⟩

attribute [lit] helpAct

def demoTbl : List Act :=
  [ helpAct,
    { opts := ["--n".toList], dest := "c.n".toList, kind := .store, nargs := .one, conv := .base .int,
      choices := none, required := true, default := some (.sc .none) },
    { opts := ["--l".toList], dest := "c.l".toList, kind := .store, nargs := .num 2, conv := .base .str,
      choices := some ["a".toList, "b".toList], required := false, default := some (.list []) } ]
attribute [lit] demoTbl

/-- the reasons for which the model may answer "outside the modelled fragment" -/
def ConversionWhy (w : String) : Prop :=
  w = "type conversion outside the modelled fragment" ∨ w = "default conversion" ∨
    w = "single-dash cluster"

theorem runStrict_eq_run_of_not_ok (fenv : FEnv) (tbl : List Act) (cs : List Nat) (argv : List Str)
    (h : ∀ ns ex cs', run fenv tbl cs argv ≠ .ok ns ex cs') :
    runStrict fenv tbl cs argv = run fenv tbl cs argv := by
  rcases runStrict_cases fenv tbl cs argv with ⟨heq, _⟩ | ⟨_, _, _, _, _, hr⟩
  · exact heq
  · exact absurd hr (h _ _ _)

/-- **C04 (no silent escape hatch).** Whenever the model answers "outside the modelled fragment"
    for a command line, the reason is a `type=` conversion outside the fragment (non-ASCII digits,
    a float token missing from the table, a path needing normalisation) — of a value or of a string
    default — or a single-dash cluster on the help option.  The `fuel` bound of the loop and the
    `bad action index` branches are unreachable: the loop always has enough fuel and the lexer only
    emits indices of real actions. -/
theorem c04_unmodelled_reasons (fenv : FEnv) (tbl : List Act) (cs : List Nat) (argv : List Str)
    (w : String) (h : runStrict fenv tbl cs argv = .unmodelled w) : ConversionWhy w := by
  rcases runStrict_err h nofun (fun _ _ _ => nofun) with
    he | he | ⟨_, _, he | ⟨_, _, _, _, he⟩ | he⟩ | ⟨_, _, _, _, _, _, _, _, _, hcase⟩
  · cases he
  · cases he
  · cases he
  · cases he
  · cases he; exact Or.inr (Or.inl rfl)
  · rcases hcase with ⟨_, he | he | he⟩ |
      ⟨_, he | (he | he | ⟨_, _, _, _, he⟩ | he) | ⟨_, _, he | ⟨he, _⟩⟩⟩ <;> cases he
    · exact Or.inr (Or.inr rfl)
    · exact Or.inl rfl

/-- **C04 (status 0 needs a help token).** The engine exits with status 0 only if the lexer found a
    token owned by a help action on the command line (`-h`, `--help` or an abbreviation of it). -/
theorem c04_exit0_needs_help_token (fenv : FEnv) (tbl : List Act) (cs : List Nat) (argv : List Str)
    (k : ExitKind) (h : runStrict fenv tbl cs argv = .exit 0 k) :
    ∃ toks a i o ex act, lexAll tbl argv = .ok toks ∧ (a, Tok.O (some i) o ex) ∈ argv.zip toks ∧
      tbl[i]? = some act ∧ act.kind = .help := by
  rcases RunErr.exit (runStrict_err h nofun (fun _ _ _ => nofun)) with h2 | ⟨_, _, hex⟩
  · cases h2
  · exact hex

/-- no token of the command line is owned by a help action -/
def NoHelpToken (tbl : List Act) (argv : List Str) : Prop :=
  ∀ toks i o ex act, lexAll tbl argv = .ok toks → Tok.O (some i) o ex ∈ toks →
    tbl[i]? = some act → act.kind ≠ .help

/-! ### 2. mutation classes of the quantifier: each one is rejected, wherever it occurs — statements
    over ARBITRARY command lines (no canonical shape): the loop reaches every owned option token
    (`consume_reaches`) -/

/-- the loop arrives at every non-argument token of an accepted command line -/
theorem accepted_reaches {fenv : FEnv} {tbl : List Act} {cs : List Nat} {argv : List Str}
    {ns : List (Str × Val)} {ex : List Str} {cs' : List Nat}
    (h : runStrict fenv tbl cs argv = .ok ns ex cs') {P : St → Prop}
    (hP : ∀ st p rest st2 rest2, P st → Step fenv tbl st p rest st2 rest2 → P st2)
    (hP0 : P { ns := initNs tbl, extras := [], seen := [], counters := cs })
    {toks : List Tok} (hlex : lexAll tbl argv = .ok toks)
    {pre : List (Str × Tok)} {x : Str × Tok} {post : List (Str × Tok)}
    (hz : argv.zip toks = pre ++ x :: post) (hx : x.2 ≠ .A) :
    ∃ st1 st2 rest2 fuel st', P st1 ∧ Step fenv tbl st1 x post st2 rest2 ∧
      consume fenv tbl fuel st2 rest2 = .ok st' ∧ st'.extras = [] := by
  obtain ⟨toks', st, st2, hlex', hc, _, hex, _, _⟩ := runStrict_ok_inv h
  rw [hlex] at hlex'; cases hlex'
  rw [hz] at hc
  obtain ⟨fuel1, st1, hp1, hc1⟩ := consume_reaches hP hx hc hP0
  obtain ⟨s2, r2, hstep, hc2⟩ := consume_ok_step hc1
  exact ⟨st1, s2, r2, fuel1, st, hp1, hstep, hc2, hex⟩

theorem accepted_step {fenv : FEnv} {tbl : List Act} {cs : List Nat} {argv : List Str}
    {ns : List (Str × Val)} {ex : List Str} {cs' : List Nat}
    (h : runStrict fenv tbl cs argv = .ok ns ex cs') {toks : List Tok}
    (hlex : lexAll tbl argv = .ok toks) {pre : List (Str × Tok)} {x : Str × Tok}
    {post : List (Str × Tok)} (hz : argv.zip toks = pre ++ x :: post) (hx : x.2 ≠ .A) :
    ∃ st1 st2 rest2 fuel st', Step fenv tbl st1 x post st2 rest2 ∧
      consume fenv tbl fuel st2 rest2 = .ok st' ∧ st'.extras = [] :=
  let ⟨st1, st2, rest2, fuel, st', _, hr⟩ := accepted_reaches h (P := fun _ => True)
    (fun _ _ _ _ _ _ _ => trivial) trivial hlex hz hx
  ⟨st1, st2, rest2, fuel, st', hr⟩

/-- leftovers never disappear -/
theorem consume_extras_ne {fenv : FEnv} {tbl : List Act} {fuel : Nat} {st st' : St}
    {l : List (Str × Tok)} (h : consume fenv tbl fuel st l = .ok st') (hne : st.extras ≠ []) :
    st'.extras ≠ [] :=
  consume_inv (P := fun s => s.extras ≠ [])
    (by
      intro s p rest s2 r2 _ hs hst
      rcases hst.cases' with rfl | ⟨i, o, ex, ac, args, _, _, _, _, htk⟩
      · exact List.append_ne_nil_of_right_ne_nil _ (List.cons_ne_nil _ _)
      · obtain ⟨_, _, _, _, _, _, rfl, _⟩ := takeAction_ok_inv htk
        exact hs)
    h hne

/-- **C04 (unknown option).** If anywhere on the command line there is a token the lexer can attach
    to no action (a dash-led token that is neither an option string, nor `opt=value`, nor an
    abbreviation of one, nor a negative number), `parse_args` does not succeed. -/
theorem c04_unknown_rejected (fenv : FEnv) (tbl : List Act) (cs : List Nat) (argv : List Str)
    (toks : List Tok) (hlex : lexAll tbl argv = .ok toks)
    (hu : ∃ p ∈ argv.zip toks, ∃ o e, p.2 = Tok.O none o e)
    (ns : List (Str × Val)) (ex : List Str) (cs' : List Nat) :
    runStrict fenv tbl cs argv ≠ .ok ns ex cs' := by
  intro h
  obtain ⟨⟨a, t⟩, hp, o, e, rfl⟩ := hu
  obtain ⟨pre, post, hz⟩ := List.append_of_mem hp
  obtain ⟨st1, st2, rest2, fuel, st', hstep, hc, hex⟩ :=
    accepted_step h hlex hz (by simp)
  -- the token goes to the leftovers, and stays there
  obtain ⟨rfl, _⟩ := hstep.inv_skip rfl
  exact consume_extras_ne hc (List.append_ne_nil_of_right_ne_nil _ (List.cons_ne_nil _ _)) hex

/-! #### missing required option -/

/-- an action is marked as seen only because one of its option tokens is on the command line -/
theorem consume_seen {fenv : FEnv} {tbl : List Act} {fuel : Nat} {st st' : St}
    {l : List (Str × Tok)} (h : consume fenv tbl fuel st l = .ok st') {j : Nat} (hj : j ∈ st'.seen) :
    j ∈ st.seen ∨ ∃ a o ex, (a, Tok.O (some j) o ex) ∈ l :=
  consume_inv
    (P := fun s => ∀ j, j ∈ s.seen → j ∈ st.seen ∨ ∃ a o ex, (a, Tok.O (some j) o ex) ∈ l)
    (by
      intro s p rest s2 rest2 hp hs hstep j hj
      rcases hstep.cases' with rfl | ⟨i, o, ex, ac, args, hpi, _, _, _, htk⟩
      · exact hs j hj
      · obtain ⟨_, _, _, _, _, _, rfl, _⟩ := takeAction_ok_inv htk
        rcases List.mem_cons.mp hj with rfl | hj
        · obtain ⟨a, t⟩ := p
          cases hpi
          exact Or.inr ⟨a, o, ex, hp⟩
        · exact hs j hj)
    h (fun j hj => Or.inl hj) j hj

/-- **C04 (missing required option), for EVERY command line.** If no token of the command line is
    lexed as an option string of a required action — whatever else the command line contains, in
    whatever order, abbreviated or not, with `--` or without — `parse_args` does not accept it. -/
theorem c04_missing_required_any (fenv : FEnv) (tbl : List Act) (cs : List Nat) (argv : List Str)
    (a : Act) (i : Nat) (hmem : (a, i) ∈ tbl.zipIdx) (hreq : a.required = true)
    (hno : ∀ toks o e, lexAll tbl argv = .ok toks → Tok.O (some i) o e ∉ toks)
    (ns : List (Str × Val)) (ex : List Str) (cs' : List Nat) :
    runStrict fenv tbl cs argv ≠ .ok ns ex cs' := by
  intro h
  obtain ⟨toks, st, st2, hlex, hc, hf, _, _, _⟩ := runStrict_ok_inv h
  have hseen := (finish_ok_inv hf).2.2.2.1 (a, i) hmem hreq
  rcases consume_seen hc (j := i) (by simpa using hseen) with h1 | ⟨a', o, e, hm⟩
  · cases h1
  · exact hno toks o e hlex (List.of_mem_zip hm).2

theorem lex_l_a_b : lexAll demoTbl ["--l".toList, "a".toList, "b".toList] =
    .ok [.O (some 2) "--l".toList none, .A, .A] := by rfl_lit

/-- non-vacuity: `--l a b` never mentions the required `--n` of `demoTbl` -/
theorem demo_missing_rejected : ∀ ns ex cs',
    runStrict [] demoTbl [0, 0, 0] ["--l".toList, "a".toList, "b".toList] ≠ .ok ns ex cs' :=
  c04_missing_required_any [] demoTbl [0, 0, 0] _ (demoTbl[1]'(by decide_lit)) 1 (by decide_lit) rfl
    (by intro toks o e hlex hm
        rw [lex_l_a_b] at hlex
        cases hlex
        simp at hm)

example : ∀ ns ex cs', runStrict [] demoTbl [0, 0, 0] ["--l".toList, "a".toList, "b".toList] ≠ .ok ns ex cs' :=
  demo_missing_rejected

/-- **C04 (missing required option).** A command line of option segments that never mentions a
    required action is not accepted — whatever else is on it. -/
theorem c04_missing_required (fenv : FEnv) (tbl : List Act) (cs : List Nat) (segs : List Seg)
    (hlex : ∀ s ∈ segs, LexOk tbl s) (hcons : ∀ s ∈ segs, ConsumeOk tbl s)
    (a : Act) (i : Nat) (hmem : (a, i) ∈ tbl.zipIdx) (hreq : a.required = true)
    (hno : i ∉ segs.map (·.idx))
    (ns : List (Str × Val)) (ex : List Str) (cs' : List Nat) :
    runStrict fenv tbl cs (render segs) ≠ .ok ns ex cs' := by
  -- how the segments take their arguments (`hcons`) plays no role
  have _ := hcons
  refine c04_missing_required_any fenv tbl cs _ a i hmem hreq ?_ ns ex cs'
  intro toks o e hl hm
  -- an option token of action `i` would come from a segment of action `i`: value tokens are
  -- arguments, and an exact option string is lexed as its own action
  obtain ⟨x, hx, hc⟩ := lexAll_O_inv hl hm
  obtain ⟨s, hs, hx⟩ := List.mem_flatMap.mp hx
  have hsl := hlex s hs
  rcases List.mem_cons.mp hx with rfl | hx
  · obtain ⟨r, hr⟩ := hsl.optdash
    rw [classify_exact tbl _ _ r hr hsl.lookup] at hc
    cases hc
    exact hno (List.mem_map_of_mem hs)
  · rw [classify_nodash tbl x (hsl.nodash x hx)] at hc
    cases hc

/-! ### 3. the `parse_tuple` closure counters stay aligned across accepted command lines -/

def tc (act : Act) : Nat := match act.conv with | .tupleCounter _ => 1 | _ => 0

theorem getValue_counters {fenv : FEnv} {act : Act} {i : Nat} {cs cs' : List Nat} {t : Str}
    {v : Scalar} (h : getValue fenv act i cs t = .ok (v, cs')) :
    cs'.length = cs.length ∧ (i < cs.length → cs'.getD i 0 = cs.getD i 0 + tc act) ∧
      ∀ j, j ≠ i → cs'.getD j 0 = cs.getD j 0 := by
  obtain ⟨_, _, rfl⟩ := getValue_ok_inv h
  unfold tc
  cases act.conv with
  | tupleCounter bs => exact ⟨bump_length cs i, bump_getD cs i, fun j hj => bump_getD_ne cs i j hj⟩
  | _ => exact ⟨rfl, fun _ => rfl, fun _ _ => rfl⟩

/-- what a successful conversion of the tokens of one option occurrence looks like: as many values
    as tokens; the `j`-th value is the `j`-th token converted by `getValue`, at closure position `j`
    counted from where the closure stood; the counter of the action has moved on by one per token
    for a `parse_tuple` closure, and no other counter has moved -/
theorem getValuesList_ok_inv {fenv : FEnv} {act : Act} {i : Nat} :
    ∀ {toks : List Str} {cs cs' : List Nat} {vs : List Scalar},
      getValuesList fenv act i cs toks = .ok (vs, cs') →
      vs.length = toks.length ∧
      (∀ j s, vs[j]? = some s → ∃ t c c', toks[j]? = some t ∧
        getValue fenv act i c t = .ok (s, c') ∧
        (i < cs.length → c.getD i 0 = cs.getD i 0 + j * tc act)) ∧
      (i < cs.length → cs'.length = cs.length ∧
        cs'.getD i 0 = cs.getD i 0 + toks.length * tc act ∧
        ∀ j, j ≠ i → cs'.getD j 0 = cs.getD j 0) := by
  intro toks
  induction toks with
  | nil =>
    intro cs cs' vs h
    cases h
    exact ⟨rfl, fun j s hs => (by cases hs),
      fun _ => ⟨rfl, (by rw [List.length_nil, Nat.zero_mul]; rfl), fun _ _ => rfl⟩⟩
  | cons t ts ih =>
    intro cs cs' vs h
    obtain ⟨v, c1, vs2, h1, h2, rfl⟩ := getValuesList_cons_ok h
    obtain ⟨hl1, hi1, hj1⟩ := getValue_counters h1
    obtain ⟨hlen, hget, hcnt⟩ := ih h2
    refine ⟨by rw [List.length_cons, hlen, List.length_cons], ?_, ?_⟩
    · intro j s hs
      cases j with
      | zero => cases hs; exact ⟨t, cs, c1, rfl, h1, fun _ => by rw [Nat.zero_mul]; rfl⟩
      | succ j' =>
        obtain ⟨t', c, c', ht', hg, hc⟩ := hget j' s hs
        refine ⟨t', c, c', ht', hg, fun hi => ?_⟩
        rw [hc (hl1 ▸ hi), hi1 hi, Nat.succ_mul, Nat.add_right_comm, Nat.add_assoc]
    · intro hi
      obtain ⟨hl2, hi2, hj2⟩ := hcnt (hl1 ▸ hi)
      refine ⟨hl2.trans hl1, ?_, fun j hj => (hj2 j hj).trans (hj1 j hj)⟩
      rw [hi2, hi1 hi, List.length_cons, Nat.succ_mul, Nat.add_right_comm, Nat.add_assoc]

/-- the counters of all fixed-arity `parse_tuple` closures are multiples of their arity -/
def Aligned (tbl : List Act) (cs : List Nat) : Prop :=
  cs.length = tbl.length ∧
    ∀ i act bs, tbl[i]? = some act → act.conv = .tupleCounter bs → act.nargs = .num bs.length →
      cs.getD i 0 % bs.length = 0

theorem takeAction_aligned (fenv : FEnv) (tbl : List Act) (st st' : St) (i : Nat) (o : Str)
    (args : List Str) (hal : Aligned tbl st.counters)
    (hargs : ∀ act m, tbl[i]? = some act → act.nargs = .num m → args.length = m)
    (h : takeAction fenv tbl st i o args = .ok st') : Aligned tbl st'.counters := by
  obtain ⟨act, vs, cs, v, hact, hl, rfl, _⟩ := takeAction_ok_inv h
  have hi : i < st.counters.length := by
    rw [hal.1]
    exact (List.getElem?_eq_some_iff.mp hact).1
  obtain ⟨hlen, hii, hjj⟩ := (getValuesList_ok_inv hl).2.2 hi
  refine ⟨hlen.trans hal.1, ?_⟩
  intro j actj bs hj hconv hn
  by_cases hji : j = i
  · subst hji
    rw [hact] at hj
    cases hj
    have htc : tc act = 1 := by unfold tc; rw [hconv]
    show cs.getD j 0 % bs.length = 0
    rw [hii, htc, Nat.mul_one, hargs act bs.length hact hn, Nat.add_mod_right]
    exact hal.2 j act bs hact hconv hn
  · show cs.getD j 0 % bs.length = 0
    rw [hjj j hji]
    exact hal.2 j actj bs hj hconv hn

/-- every step of the loop keeps the counters aligned: a fixed-arity action takes exactly its arity -/
theorem step_aligned {fenv : FEnv} {tbl : List Act} {st : St} {p : Str × Tok}
    {rest : List (Str × Tok)} {st2 : St} {rest2 : List (Str × Tok)}
    (hal : Aligned tbl st.counters) (h : Step fenv tbl st p rest st2 rest2) :
    Aligned tbl st2.counters := by
  rcases h.cases' with rfl | ⟨i, o, ex, ac, args, _, hact, _, har, htk⟩
  · exact hal
  · refine takeAction_aligned fenv tbl st st2 i o args hal ?_ htk
    intro act m ha hn
    rw [hact] at ha; cases ha
    rw [hn] at har
    exact har

/-- **the `parse_tuple` closures stay aligned across parses**: if before a parse every fixed-arity
    tuple closure's call counter is a multiple of its arity (true for a new parser: all 0), then it
    is so again after ANY accepted command line — however many times the tuple options occur. So
    the next parse on the same parser starts every tuple at its first item type (with
    `C02.c02_tuple_occurrence`: it converts exactly as a fresh parser would). Rejected command lines
    reset the counter in the real code (fix b1a5942); the model's exits carry no state. -/
theorem c04_counters_aligned (fenv : FEnv) (tbl : List Act) (cs : List Nat) (argv : List Str)
    (ns : List (Str × Val)) (ex : List Str) (cs' : List Nat)
    (hal : Aligned tbl cs) (h : run fenv tbl cs argv = .ok ns ex cs') : Aligned tbl cs' := by
  obtain ⟨toks, st, st2, _, hc, hf, _, _, rfl⟩ := run_ok_inv h
  rw [(finish_ok_inv hf).2.2.1]
  exact consume_inv (P := fun s => Aligned tbl s.counters)
    (fun _ _ _ _ _ _ hs hst => step_aligned hs hst) hc hal

theorem aligned_zeros (tbl : List Act) : Aligned tbl (tbl.map (fun _ => 0)) := by
  refine ⟨by simp, ?_⟩
  intro i act bs _ _ _
  have : (tbl.map (fun _ => 0)).getD i 0 = 0 := by
    rw [List.getD_eq_getElem?_getD, List.getElem?_map]
    cases tbl[i]? <;> rfl
  rw [this]
  exact Nat.zero_mod _

def tupTbl : List Act :=
  [ { opts := ["--t".toList], dest := "c.t".toList, kind := .store, nargs := .num 2,
      conv := .tupleCounter [.int, .str], choices := none, required := false,
      default := some (.sc .none) } ]
attribute [lit] tupTbl

example : Aligned tupTbl [0] := aligned_zeros tupTbl

/-! ### 4. rejection, continued: the offending token is a VALUE of an owned option -/

/-! #### a value on a negative flag -/

/-- `BooleanOptionalAction.__call__` with a negative option string and a value: an error with
    status 2 — the value is not a boolean word (type error), or it is and the negative-flag rule
    refuses it -/
theorem takeAction_negflag (fenv : FEnv) {tbl : List Act} (st : St) {i : Nat} {o : Str} (x : Str)
    {act : Act} {negs : List Str} (hact : tbl[i]? = some act) (hk : act.kind = .boolOpt negs)
    (hn : act.nargs = .opt) (hc : act.conv = .base .bool) (ho : negs.contains o = true) :
    ∃ k, takeAction fenv tbl st i o [x] = .error (.exit 2 k) := by
  unfold takeAction
  rw [hact]
  simp only [hk]
  unfold getValues
  rw [hn]
  simp only
  unfold getValue
  simp only [hc, Conv.apply, BConv.apply]
  cases hb : str2bool x with
  | none => exact ⟨.type, rfl⟩
  | some b =>
    simp only
    cases hch : act.choices with
    | some ch => exact ⟨.choice, rfl⟩
    | none => simp only [Except.map, ho, ↓reduceIte]; exact ⟨.negflag, rfl⟩

/-- the well-formedness every table built by simple-parsing has: a `parse_tuple` closure is over
    at least one item type (`parse_tuple(())` substitutes `(Any, ...)`), and boolean actions are the
    ones simple-parsing builds (`nargs='?'`, `type=str2bool`) -/
structure NoRaiseTbl (tbl : List Act) : Prop where
  stateless : ∀ a ∈ tbl, ∀ cs, a.conv = .tupleCounter cs → cs ≠ []
  boolwf : ∀ a ∈ tbl, ∀ negs, a.kind = .boolOpt negs → a.nargs = .opt ∧ a.conv = .base .bool

/-- **C04 (value on a negative flag, `--noflag=x`), for EVERY command line.** If anywhere on the
    command line a token is lexed as a negative option string of a boolean action with an explicit
    `=value`, the command line is not accepted. -/
theorem c04_negflag_eq_rejected (fenv : FEnv) (tbl : List Act) (hw : NoRaiseTbl tbl)
    (cs : List Nat) (argv : List Str) (toks : List Tok) (hlex : lexAll tbl argv = .ok toks)
    (a : Str) (i : Nat) (o x : Str) (act : Act) (negs : List Str)
    (hm : (a, Tok.O (some i) o (some x)) ∈ argv.zip toks)
    (hact : tbl[i]? = some act) (hk : act.kind = .boolOpt negs) (ho : negs.contains o = true)
    (ns : List (Str × Val)) (ex : List Str) (cs' : List Nat) :
    runStrict fenv tbl cs argv ≠ .ok ns ex cs' := by
  intro h
  obtain ⟨pre, post, hz⟩ := List.append_of_mem hm
  obtain ⟨st1, st2, rest2, fuel, st', hstep, _, _⟩ :=
    accepted_step h hlex hz (by simp)
  obtain ⟨act', hact', _, _, ht, _⟩ := hstep.inv_some
  obtain ⟨hn, hc⟩ := hw.boolwf act (List.mem_of_getElem? hact) negs hk
  obtain ⟨k, hk2⟩ := takeAction_negflag fenv st1 x hact hk hn hc ho
  rw [hk2] at ht
  cases ht

/-- **C04 (value on a negative flag, `--noflag x`), for EVERY command line.** A negative option
    string of a boolean action directly followed by an argument token: not accepted. -/
theorem c04_negflag_space_rejected (fenv : FEnv) (tbl : List Act) (hw : NoRaiseTbl tbl)
    (cs : List Nat) (argv : List Str) (toks : List Tok) (hlex : lexAll tbl argv = .ok toks)
    (pre post : List (Str × Tok)) (a : Str) (i : Nat) (o x : Str) (act : Act) (negs : List Str)
    (hz : argv.zip toks = pre ++ (a, Tok.O (some i) o none) :: (x, Tok.A) :: post)
    (hact : tbl[i]? = some act) (hk : act.kind = .boolOpt negs) (ho : negs.contains o = true)
    (ns : List (Str × Val)) (ex : List Str) (cs' : List Nat) :
    runStrict fenv tbl cs argv ≠ .ok ns ex cs' := by
  intro h
  obtain ⟨st1, st2, rest2, fuel, st', hstep, _, _⟩ :=
    accepted_step h hlex hz (by simp)
  obtain ⟨act', k, hact', _, hmc, ht, _⟩ := hstep.inv_none
  rw [hact] at hact'; cases hact'
  obtain ⟨hn, hc⟩ := hw.boolwf act (List.mem_of_getElem? hact) negs hk
  rw [hn] at hmc
  -- `'?'` takes the one argument token that is there
  obtain ⟨hle, _, hmax⟩ := matchCount_iff.mp hmc
  have hk1 : k = 1 := Nat.le_antisymm hle (hmax 1 (Nat.le_refl 1) (Nat.succ_le_succ (Nat.zero_le _)))
  subst hk1
  obtain ⟨k2, hk2⟩ := takeAction_negflag fenv st1 x hact hk hn hc ho
  rw [List.take_succ_cons, List.take_zero, List.map_cons, List.map_nil, hk2] at ht
  cases ht

/-! #### wrong arity for a fixed-length tuple -/

/-- too few tokens before the next option (or the end): `expected N arguments`, status 2 -/
theorem c04_arity_short (fenv : FEnv) (tbl : List Act) (fuel : Nat) (st : St) (a o : Str)
    (i m : Nat) (act : Act) (rest : List (Str × Tok)) (hact : tbl[i]? = some act)
    (hk : act.kind ≠ .help) (hn : act.nargs = .num m) (hshort : countA (rest.map (·.2)) < m) :
    consume fenv tbl (fuel + 1) st ((a, Tok.O (some i) o none) :: rest) = .error (.exit 2 .nargs) := by
  rw [consume_option_none fenv fuel st a o rest hact hk, hn]
  cases hm : matchCount (.num m) (rest.map (·.2)) with
  | none => rfl
  | some k =>
    obtain ⟨rfl, hle, _⟩ := matchCount_iff.mp hm
    exact absurd hshort (Nat.not_lt.mpr hle)

/-- too many tokens: exactly N are taken (the next one is then a leftover, see `c04_arity_long_rejected`) -/
theorem c04_arity_long_take (m : Nat) (following : List Tok) (h : countA following ≥ m) :
    matchCount (.num m) following = some m :=
  matchCount_iff.mpr ⟨rfl, h, fun _ h1 _ => Nat.le_of_eq h1⟩

/-- the value tokens of one option occurrence, as (argument string, token) pairs -/
def argToks (vals : List Str) : List (Str × Tok) := vals.map (fun v => (v, Tok.A))

/-- the input after the value tokens does not continue with another argument token -/
def Stops (post : List (Str × Tok)) : Prop := ∀ p ps, post = p :: ps → p.2 ≠ .A

theorem countA_argToks_ge (vals : List Str) (post : List (Str × Tok)) :
    vals.length ≤ countA ((argToks vals ++ post).map (·.2)) := by
  induction vals with
  | nil => exact Nat.zero_le _
  | cons v vs ih => exact Nat.succ_le_succ ih

theorem countA_argToks (vals : List Str) (post : List (Str × Tok)) (hs : Stops post) :
    countA ((argToks vals ++ post).map (·.2)) = vals.length := by
  refine Nat.le_antisymm ?_ (countA_argToks_ge vals post)
  cases post with
  | nil =>
    have := countA_le_length ((argToks vals ++ []).map (fun p : Str × Tok => p.2))
    simpa [argToks] using this
  | cons p ps =>
    have := countA_append_stop (argToks vals) p ps (hs p ps rfl)
    simpa [argToks] using this

/-- **C04 (arity −), for EVERY command line.** An option of a fixed-arity action (`nargs = m`:
    every `Tuple[t1, …, tm]` field) followed by fewer than `m` argument tokens before the next
    option / `--` / the end: not accepted, whatever precedes and follows. -/
theorem c04_arity_short_rejected (fenv : FEnv) (tbl : List Act) (cs : List Nat) (argv : List Str)
    (toks : List Tok) (hlex : lexAll tbl argv = .ok toks)
    (pre post : List (Str × Tok)) (a : Str) (i : Nat) (o : Str) (vals : List Str) (act : Act) (m : Nat)
    (hz : argv.zip toks = pre ++ (a, Tok.O (some i) o none) :: (argToks vals ++ post))
    (hs : Stops post) (hact : tbl[i]? = some act) (hn : act.nargs = .num m) (hlt : vals.length < m)
    (ns : List (Str × Val)) (ex : List Str) (cs' : List Nat) :
    runStrict fenv tbl cs argv ≠ .ok ns ex cs' := by
  intro h
  obtain ⟨st1, st2, rest2, fuel, st', hstep, _, _⟩ :=
    accepted_step h hlex hz (by simp)
  obtain ⟨act', k, hact', _, hmc, _, _⟩ := hstep.inv_none
  rw [hact] at hact'; cases hact'
  rw [hn] at hmc
  obtain ⟨hkm, hle, _⟩ := matchCount_iff.mp hmc
  rw [countA_argToks vals post hs, hkm] at hle
  exact absurd hlt (Nat.not_lt.mpr hle)

/-- **C04 (arity +), for EVERY command line.** An option of a fixed-arity action followed by more
    than `m` argument tokens: exactly `m` are taken, the next one is a leftover, and `parse_args`
    rejects leftovers — the surplus is neither absorbed nor silently dropped. -/
theorem c04_arity_long_rejected (fenv : FEnv) (tbl : List Act) (cs : List Nat) (argv : List Str)
    (toks : List Tok) (hlex : lexAll tbl argv = .ok toks)
    (pre post : List (Str × Tok)) (a : Str) (i : Nat) (o : Str) (vals : List Str) (act : Act) (m : Nat)
    (hz : argv.zip toks = pre ++ (a, Tok.O (some i) o none) :: (argToks vals ++ post))
    (hact : tbl[i]? = some act) (hn : act.nargs = .num m) (hgt : m < vals.length)
    (ns : List (Str × Val)) (ex : List Str) (cs' : List Nat) :
    runStrict fenv tbl cs argv ≠ .ok ns ex cs' := by
  intro h
  obtain ⟨st1, st2, rest2, fuel, st', hstep, hc2, hex⟩ :=
    accepted_step h hlex hz (by simp)
  obtain ⟨act', k, hact', _, hmc, _, hr2⟩ := hstep.inv_none
  rw [hact] at hact'; cases hact'
  rw [hn] at hmc
  have hkm : k = m := (matchCount_iff.mp hmc).1
  subst hkm
  -- what is left starts with the (k+1)-th value token: a leftover
  have hdrop : rest2 = (vals[k], Tok.A) :: (argToks (vals.drop (k + 1)) ++ post) := by
    rw [hr2, List.drop_append_of_le_length (by rw [argToks, List.length_map]; exact Nat.le_of_lt hgt),
      argToks, ← List.map_drop, List.drop_eq_getElem_cons hgt]
    rfl
  rw [hdrop] at hc2
  cases fuel with
  | zero => cases hc2
  | succ f =>
    obtain ⟨st3, rest3, hstep3, hc3⟩ := consume_ok_step hc2
    obtain ⟨rfl, _⟩ := hstep3.inv_skip rfl
    exact consume_extras_ne hc3 (List.append_ne_nil_of_right_ne_nil _ (List.cons_ne_nil _ _)) hex

/-- **C04 (arity, `--tup=x` form), for EVERY command line.** An explicit `=value` on an option of
    a fixed-arity action with `m ≠ 1`: not accepted. -/
theorem c04_arity_eq_rejected (fenv : FEnv) (tbl : List Act) (cs : List Nat) (argv : List Str)
    (toks : List Tok) (hlex : lexAll tbl argv = .ok toks)
    (a : Str) (i : Nat) (o x : Str) (act : Act) (m : Nat)
    (hm : (a, Tok.O (some i) o (some x)) ∈ argv.zip toks)
    (hact : tbl[i]? = some act) (hn : act.nargs = .num m) (hne : m ≠ 1)
    (ns : List (Str × Val)) (ex : List Str) (cs' : List Nat) :
    runStrict fenv tbl cs argv ≠ .ok ns ex cs' := by
  intro h
  obtain ⟨pre, post, hz⟩ := List.append_of_mem hm
  obtain ⟨st1, st2, rest2, fuel, st', hstep, _, _⟩ :=
    accepted_step h hlex hz (by simp)
  obtain ⟨act', hact', _, har, _, _⟩ := hstep.inv_some
  rw [hact] at hact'; cases hact'
  rw [hn] at har
  exact hne har.symm

/-! #### a token that fails `type=` / `choices=` -/

/-- a token that the action's `type=`/`choices=` never lets through, whatever the closure state -/
def NeverConverts (fenv : FEnv) (act : Act) (i : Nat) (t : Str) : Prop :=
  ∀ cs, ∃ e, getValue fenv act i cs t = .error e

/-- a `take_action` whose arguments hold a token at position `j` that `getValue` refuses at the
    `j`-th closure position after the current one does not succeed -/
theorem takeAction_bad_at {fenv : FEnv} {tbl : List Act} {st st' : St} {i : Nat} {o : Str}
    {args : List Str} {act : Act} (hact : tbl[i]? = some act) {j : Nat} {t : Str}
    (ht : args[j]? = some t)
    (hbad : ∀ c, (i < st.counters.length → c.getD i 0 = st.counters.getD i 0 + j * tc act) →
      ∃ e, getValue fenv act i c t = .error e) :
    takeAction fenv tbl st i o args ≠ .ok st' := by
  intro h
  obtain ⟨act', vs, cs, v, hact', hl, _, _⟩ := takeAction_ok_inv h
  rw [hact] at hact'; cases hact'
  obtain ⟨hlen, hget, _⟩ := getValuesList_ok_inv hl
  -- as many values as arguments, so there is a `j`-th value
  have hj : j < vs.length := hlen ▸ (List.getElem?_eq_some_iff.mp ht).1
  obtain ⟨t', c, c', ht', hg, hc⟩ := hget j vs[j] (List.getElem?_eq_getElem hj)
  cases ht.symm.trans ht'
  obtain ⟨e, he⟩ := hbad c hc
  rw [he] at hg
  cases hg

theorem takeAction_bad {fenv : FEnv} {tbl : List Act} {st st' : St} {i : Nat} {o : Str}
    {args : List Str} {act : Act} (hact : tbl[i]? = some act) {t : Str} (ht : t ∈ args)
    (hbad : NeverConverts fenv act i t) : takeAction fenv tbl st i o args ≠ .ok st' := by
  obtain ⟨j, hj⟩ := List.getElem?_of_mem ht
  exact takeAction_bad_at hact hj (fun c _ => hbad c)

/-- the `j`-th argument token after an option is among those `_match_argument` hands to the action -/
def InTake : NArgs → Nat → Prop
  | .one, j => j = 0
  | .opt, j => j = 0
  | .num m, j => j < m
  | _, _ => True

theorem inTake_of_arityOk {n : NArgs} {k j : Nat} (h : arityOk n k) (hj : j < k) : InTake n j := by
  cases n with
  | one => exact Nat.lt_one_iff.mp (h ▸ hj)
  | opt => exact Nat.lt_one_iff.mp (Nat.lt_of_lt_of_le hj h)
  | num m => exact h ▸ hj
  | star => trivial
  | plus => trivial

theorem matchCount_covers {n : NArgs} {vals : List Str} {post : List (Str × Tok)} {k j : Nat}
    (hj : j < vals.length) (hin : InTake n j)
    (h : matchCount n ((argToks vals ++ post).map (·.2)) = some k) : j < k := by
  obtain ⟨har, _, hmax⟩ := matchCount_iff.mp h
  have hge := countA_argToks_ge vals post
  have hpos : 1 ≤ vals.length := Nat.zero_lt_of_lt hj
  -- a fixed number of arguments is `k` itself; otherwise taking all the values is admissible
  cases n with
  | one => exact har ▸ hin ▸ Nat.one_pos
  | opt => exact hin ▸ hmax 1 (Nat.le_refl 1) (Nat.le_trans hpos hge)
  | star => exact Nat.lt_of_lt_of_le hj (hmax _ trivial hge)
  | plus => exact Nat.lt_of_lt_of_le hj (hmax _ hpos hge)
  | num m => exact har ▸ hin

theorem take_argToks_get {vals : List Str} (post : List (Str × Tok)) {k j : Nat} {t : Str}
    (hjk : j < k) (ht : vals[j]? = some t) :
    (((argToks vals ++ post).take k).map (·.1))[j]? = some t := by
  have hj : j < vals.length := (List.getElem?_eq_some_iff.mp ht).1
  rw [List.getElem?_map, List.getElem?_take_of_lt hjk,
    List.getElem?_append_left (by simpa [argToks] using hj)]
  simp [argToks, ht]

/-- **C04 (ill-typed token / value outside the choices), for EVERY command line.** If the `j`-th
    argument token after an option is one the action's `type=` / `choices=` never lets through and
    is among the tokens the action takes, the command line is not accepted — not coerced, not
    truncated before it, not defaulted. -/
theorem c04_bad_value_rejected (fenv : FEnv) (tbl : List Act) (cs : List Nat) (argv : List Str)
    (toks : List Tok) (hlex : lexAll tbl argv = .ok toks)
    (pre post : List (Str × Tok)) (a : Str) (i : Nat) (o : Str) (vals : List Str) (act : Act)
    (hz : argv.zip toks = pre ++ (a, Tok.O (some i) o none) :: (argToks vals ++ post))
    (hact : tbl[i]? = some act) (j : Nat) (t : Str) (ht : vals[j]? = some t)
    (hin : InTake act.nargs j) (hbad : NeverConverts fenv act i t)
    (ns : List (Str × Val)) (ex : List Str) (cs' : List Nat) :
    runStrict fenv tbl cs argv ≠ .ok ns ex cs' := by
  intro h
  obtain ⟨st1, st2, rest2, fuel, st', hstep, _, _⟩ :=
    accepted_step h hlex hz (by simp)
  obtain ⟨act', k, hact', _, hmc, htake, _⟩ := hstep.inv_none
  rw [hact] at hact'; cases hact'
  have hj : j < vals.length := (List.getElem?_eq_some_iff.mp ht).1
  have hjk := matchCount_covers hj hin hmc
  exact takeAction_bad hact (List.mem_of_getElem? (take_argToks_get post hjk ht)) hbad htake

/-- the same for the `--opt=value` spelling -/
theorem c04_bad_value_eq_rejected (fenv : FEnv) (tbl : List Act) (cs : List Nat) (argv : List Str)
    (toks : List Tok) (hlex : lexAll tbl argv = .ok toks)
    (a : Str) (i : Nat) (o x : Str) (act : Act)
    (hm : (a, Tok.O (some i) o (some x)) ∈ argv.zip toks)
    (hact : tbl[i]? = some act) (hbad : NeverConverts fenv act i x)
    (ns : List (Str × Val)) (ex : List Str) (cs' : List Nat) :
    runStrict fenv tbl cs argv ≠ .ok ns ex cs' := by
  intro h
  obtain ⟨pre, post, hz⟩ := List.append_of_mem hm
  obtain ⟨st1, st2, rest2, fuel, st', hstep, _, _⟩ :=
    accepted_step h hlex hz (by simp)
  obtain ⟨act', hact', _, _, htake, _⟩ := hstep.inv_some
  exact takeAction_bad hact List.mem_cons_self hbad htake

/-- a token the `type=` callable rejects with a type error at every closure position -/
theorem never_of_typeErr {fenv : FEnv} {act : Act} {i : Nat} {t : Str}
    (h : ∀ k, act.conv.apply fenv k t = .typeErr) : NeverConverts fenv act i t := by
  intro cs
  simp only [getValue, h]
  exact ⟨_, rfl⟩

/-- instances of `NeverConverts`: a token `int()` rejects; a value outside `choices` -/
theorem never_int (fenv : FEnv) (act : Act) (i : Nat) (t : Str) (hconv : act.conv = .base .int)
    (hbad : parseInt t = .typeErr) : NeverConverts fenv act i t := by
  exact never_of_typeErr (fun k => by rw [hconv]; exact hbad)

theorem never_choice (fenv : FEnv) (act : Act) (i : Nat) (t : Str) (hconv : act.conv = .base .str)
    (ch : List Str) (hch : act.choices = some ch) (hnot : ch.contains t = false) :
    NeverConverts fenv act i t := by
  intro cs
  simp only [getValue, hconv, Conv.apply, BConv.apply, hch, hnot]
  exact ⟨_, rfl⟩

/-- more instances of `NeverConverts`: a non-boolean word for `str2bool`, a non-member for
    `parse_enum`, a token every member of a Union rejects -/
theorem never_bool (fenv : FEnv) (act : Act) (i : Nat) (t : Str) (hconv : act.conv = .base .bool)
    (hbad : str2bool t = none) : NeverConverts fenv act i t := by
  exact never_of_typeErr (fun k => by simp only [hconv, Conv.apply, BConv.apply, hbad])

theorem never_enum (fenv : FEnv) (act : Act) (i : Nat) (t : Str) (cls : Str) (ms : List Str)
    (hconv : act.conv = .base (.enumName cls ms)) (hbad : ms.contains t = false) :
    NeverConverts fenv act i t := by
  exact never_of_typeErr (fun k => by simp only [hconv, Conv.apply, BConv.apply, hbad]; rfl)

theorem never_union (fenv : FEnv) (act : Act) (i : Nat) (t : Str) (bs : List BConv)
    (hconv : act.conv = .union bs) (hbad : unionApply fenv bs t = .typeErr) :
    NeverConverts fenv act i t := by
  exact never_of_typeErr (fun k => by rw [hconv]; exact hbad)

/-! #### heterogeneous tuples: the item type is chosen by POSITION -/

/-- **C04 (ill-typed item of a heterogeneous tuple), for EVERY command line.** For a
    `Tuple[t0, …, tn-1]` action (a `parse_tuple` closure over `bs`, `nargs = n`) on a parser whose
    closure counters are aligned (true for a new parser, and again after every accepted parse:
    `c04_counters_aligned`): if the token at position `j` of an occurrence is not accepted by ITS
    item type `bs[j]` — even if another position's type would accept it — the command line is not
    accepted. -/
theorem c04_hetero_bad_rejected (fenv : FEnv) (tbl : List Act) (cs : List Nat) (argv : List Str)
    (hal : Aligned tbl cs)
    (toks : List Tok) (hlex : lexAll tbl argv = .ok toks)
    (pre post : List (Str × Tok)) (a : Str) (i : Nat) (o : Str) (vals : List Str) (act : Act)
    (bs : List BConv)
    (hz : argv.zip toks = pre ++ (a, Tok.O (some i) o none) :: (argToks vals ++ post))
    (hact : tbl[i]? = some act) (hconv : act.conv = .tupleCounter bs)
    (hn : act.nargs = .num bs.length) (j : Nat) (t : Str) (b : BConv)
    (ht : vals[j]? = some t) (hb : bs[j]? = some b) (hbad : ∀ v, b.apply fenv t ≠ .ok v)
    (ns : List (Str × Val)) (ex : List Str) (cs' : List Nat) :
    runStrict fenv tbl cs argv ≠ .ok ns ex cs' := by
  intro h
  obtain ⟨st1, st2, rest2, fuel, st', hal1, hstep, _, _⟩ :=
    accepted_reaches h (P := fun s => Aligned tbl s.counters)
      (fun _ _ _ _ _ hs hst => step_aligned hs hst) hal hlex hz (by simp)
  obtain ⟨act', k, hact', _, hmc, htake, _⟩ := hstep.inv_none
  rw [hact] at hact'; cases hact'
  have hjn : j < bs.length := (List.getElem?_eq_some_iff.mp hb).1
  have hj : j < vals.length := (List.getElem?_eq_some_iff.mp ht).1
  have hjk := matchCount_covers hj (by rw [hn]; exact hjn) hmc
  have hi : i < st1.counters.length := by
    rw [hal1.1]; exact (List.getElem?_eq_some_iff.mp hact).1
  refine takeAction_bad_at hact (take_argToks_get post hjk ht) ?_ htake
  -- the counter is aligned when the occurrence starts, so token `j` meets item type `bs[j]`
  intro c hc
  have htc : tc act = 1 := by unfold tc; rw [hconv]
  have hpos : c.getD i 0 % bs.length = j := by
    rw [hc hi, htc, Nat.mul_one, Nat.add_mod, hal1.2 i act bs hact hconv hn, Nat.zero_add,
      Nat.mod_mod, Nat.mod_eq_of_lt hjn]
  cases hg : getValue fenv act i c t with
  | error e => exact ⟨e, rfl⟩
  | ok p =>
    have hap := (getValue_ok_inv hg).1
    simp only [hconv, Conv.apply, hpos, hb] at hap
    exact absurd hap (hbad _)

/-! ### 5. the lexer's verdict DERIVED from the spelling of the command line -/

/-- an occurrence `o v₁ … vₖ` of an exact option string with dash-free value tokens, anywhere on
    the command line before a literal `--` -/
structure SegAt (tbl : List Act) (argv pre : List Str) (o : Str) (i : Nat) (vals post : List Str) :
    Prop where
  eq : argv = pre ++ o :: (vals ++ post)
  nodd : ∀ x ∈ pre, x ≠ ['-', '-']
  lookup : (optTable tbl).lookup o = some i
  optdash : ∃ r, o = '-' :: r
  notdd : o ≠ ['-', '-']
  nodash : ∀ v ∈ vals, NoDash v

theorem zip_argToks (vals : List Str) : vals.zip (vals.map (fun _ => Tok.A)) = argToks vals := by
  induction vals with
  | nil => rfl
  | cons v vs ih => simp only [argToks] at ih; simp [argToks, ih]

/-- how such an occurrence is lexed, whatever surrounds it -/
theorem SegAt.zip {tbl : List Act} {argv pre : List Str} {o : Str} {i : Nat} {vals post : List Str}
    (h : SegAt tbl argv pre o i vals post) (toks : List Tok) (hlex : lexAll tbl argv = .ok toks) :
    ∃ t1 tpost, argv.zip toks =
        pre.zip t1 ++ (o, Tok.O (some i) o none) :: (argToks vals ++ post.zip tpost) ∧
      lexAll tbl post = .ok tpost := by
  rw [h.eq] at hlex
  obtain ⟨t1, t2, rfl, hl1, h2⟩ := lexAll_append_inv h.nodd hlex
  obtain ⟨t, ts, rfl, hc, h3⟩ := lexAll_cons_inv h.notdd h2
  obtain ⟨r, hr⟩ := h.optdash
  rw [classify_exact tbl o i r hr h.lookup] at hc
  cases hc
  rw [lexAll_args tbl vals post fun v hv => argTok_of_nodash tbl v (h.nodash v hv)] at h3
  cases h4 : lexAll tbl post with
  | error e => rw [h4] at h3; cases h3
  | ok tpost =>
    rw [h4] at h3
    cases h3
    refine ⟨t1, tpost, ?_, rfl⟩
    rw [h.eq, List.zip_append hl1.symm, List.zip_cons_cons,
      List.zip_append (by simp), zip_argToks]

/-- the command line continues (if at all) with `--` or an exact option string -/
def PostStops (tbl : List Act) (post : List Str) : Prop :=
  ∀ p ps, post = p :: ps → p = ['-', '-'] ∨ ((∃ r, p = '-' :: r) ∧ ∃ j, (optTable tbl).lookup p = some j)

theorem stops_of_postStops {tbl : List Act} {post : List Str} {tpost : List Tok}
    (hp : PostStops tbl post) (hlex : lexAll tbl post = .ok tpost) : Stops (post.zip tpost) := by
  intro q qs hq
  cases post with
  | nil => cases hq
  | cons p ps =>
    -- the head token is `--` or an exact option string: either way not an argument
    have hhead : ∃ t ts, tpost = t :: ts ∧ t ≠ .A := by
      by_cases hdd : p = ['-', '-']
      · simp only [lexAll, hdd, ↓reduceIte, Except.ok.injEq] at hlex
        exact ⟨_, _, hlex.symm, nofun⟩
      · obtain ⟨t, ts, rfl, hc, _⟩ := lexAll_cons_inv hdd hlex
        rcases hp p ps rfl with h | ⟨⟨r, hr⟩, j, hj⟩
        · exact absurd h hdd
        · rw [classify_exact tbl p j r hr hj] at hc
          cases hc
          exact ⟨_, _, rfl, nofun⟩
    obtain ⟨t, ts, rfl, ht⟩ := hhead
    cases hq
    exact ht

/-- **arity −, stated on the spelling**: `… --tup v₁ … vₖ [--next …]` with `k < m` dash-free
    values for an action with `nargs = m` is never accepted -/
theorem c04_arity_short_argv (fenv : FEnv) (tbl : List Act) (cs : List Nat)
    (argv pre : List Str) (o : Str) (i : Nat) (vals post : List Str)
    (hseg : SegAt tbl argv pre o i vals post) (hpost : PostStops tbl post)
    (act : Act) (m : Nat) (hact : tbl[i]? = some act) (hn : act.nargs = .num m)
    (hlt : vals.length < m) (ns : List (Str × Val)) (ex : List Str) (cs' : List Nat) :
    runStrict fenv tbl cs argv ≠ .ok ns ex cs' := by
  intro h
  obtain ⟨toks, _, _, hlex, _⟩ := runStrict_ok_inv h
  obtain ⟨t1, tpost, hz, hp⟩ := hseg.zip toks hlex
  exact c04_arity_short_rejected fenv tbl cs argv toks hlex _ _ o i o vals act m hz
    (stops_of_postStops hpost hp) hact hn hlt ns ex cs' h

/-- **arity +, stated on the spelling** -/
theorem c04_arity_long_argv (fenv : FEnv) (tbl : List Act) (cs : List Nat)
    (argv pre : List Str) (o : Str) (i : Nat) (vals post : List Str)
    (hseg : SegAt tbl argv pre o i vals post)
    (act : Act) (m : Nat) (hact : tbl[i]? = some act) (hn : act.nargs = .num m)
    (hgt : m < vals.length) (ns : List (Str × Val)) (ex : List Str) (cs' : List Nat) :
    runStrict fenv tbl cs argv ≠ .ok ns ex cs' := by
  intro h
  obtain ⟨toks, _, _, hlex, _⟩ := runStrict_ok_inv h
  obtain ⟨t1, tpost, hz, _⟩ := hseg.zip toks hlex
  exact c04_arity_long_rejected fenv tbl cs argv toks hlex _ _ o i o vals act m hz hact hn hgt
    ns ex cs' h

/-- **ill-typed token / out-of-set value, stated on the spelling** -/
theorem c04_bad_value_argv (fenv : FEnv) (tbl : List Act) (cs : List Nat)
    (argv pre : List Str) (o : Str) (i : Nat) (vals post : List Str)
    (hseg : SegAt tbl argv pre o i vals post)
    (act : Act) (hact : tbl[i]? = some act) (j : Nat) (t : Str) (ht : vals[j]? = some t)
    (hin : InTake act.nargs j) (hbad : NeverConverts fenv act i t)
    (ns : List (Str × Val)) (ex : List Str) (cs' : List Nat) :
    runStrict fenv tbl cs argv ≠ .ok ns ex cs' := by
  intro h
  obtain ⟨toks, _, _, hlex, _⟩ := runStrict_ok_inv h
  obtain ⟨t1, tpost, hz, _⟩ := hseg.zip toks hlex
  exact c04_bad_value_rejected fenv tbl cs argv toks hlex _ _ o i o vals act hz hact j t ht hin
    hbad ns ex cs' h

/-- **heterogeneous tuple, stated on the spelling** -/
theorem c04_hetero_bad_argv (fenv : FEnv) (tbl : List Act) (cs : List Nat) (hal : Aligned tbl cs)
    (argv pre : List Str) (o : Str) (i : Nat) (vals post : List Str)
    (hseg : SegAt tbl argv pre o i vals post)
    (act : Act) (bs : List BConv) (hact : tbl[i]? = some act) (hconv : act.conv = .tupleCounter bs)
    (hn : act.nargs = .num bs.length) (j : Nat) (t : Str) (b : BConv)
    (ht : vals[j]? = some t) (hb : bs[j]? = some b) (hbad : ∀ v, b.apply fenv t ≠ .ok v)
    (ns : List (Str × Val)) (ex : List Str) (cs' : List Nat) :
    runStrict fenv tbl cs argv ≠ .ok ns ex cs' := by
  intro h
  obtain ⟨toks, _, _, hlex, _⟩ := runStrict_ok_inv h
  obtain ⟨t1, tpost, hz, _⟩ := hseg.zip toks hlex
  exact c04_hetero_bad_rejected fenv tbl cs argv hal toks hlex _ _ o i o vals act bs hz hact hconv
    hn j t b ht hb hbad ns ex cs' h

/-- **value on a negative flag, `--noflag x`, stated on the spelling** -/
theorem c04_negflag_space_argv (fenv : FEnv) (tbl : List Act) (hw : NoRaiseTbl tbl) (cs : List Nat)
    (argv pre : List Str) (o : Str) (i : Nat) (x : Str) (vals post : List Str)
    (hseg : SegAt tbl argv pre o i (x :: vals) post)
    (act : Act) (negs : List Str) (hact : tbl[i]? = some act) (hk : act.kind = .boolOpt negs)
    (ho : negs.contains o = true) (ns : List (Str × Val)) (ex : List Str) (cs' : List Nat) :
    runStrict fenv tbl cs argv ≠ .ok ns ex cs' := by
  intro h
  obtain ⟨toks, _, _, hlex, _⟩ := runStrict_ok_inv h
  obtain ⟨t1, tpost, hz, _⟩ := hseg.zip toks hlex
  exact c04_negflag_space_rejected fenv tbl hw cs argv toks hlex (pre.zip t1)
    (argToks vals ++ post.zip tpost) o i o x act negs hz hact hk ho ns ex cs' h

/-! #### `--opt=value` -/

/-- **value on a negative flag, `--noflag=x`, stated on the spelling** -/
theorem c04_negflag_eq_argv (fenv : FEnv) (tbl : List Act) (hw : NoRaiseTbl tbl) (cs : List Nat)
    (pre post : List Str) (o x : Str) (i : Nat) (r : Str) (hdd : ∀ y ∈ pre, y ≠ ['-', '-'])
    (hr : o = '-' :: r) (hne : ∀ c ∈ o, c ≠ '=') (hl : (optTable tbl).lookup o = some i)
    (hnl : (optTable tbl).lookup (o ++ '=' :: x) = none)
    (act : Act) (negs : List Str) (hact : tbl[i]? = some act) (hk : act.kind = .boolOpt negs)
    (ho : negs.contains o = true) (ns : List (Str × Val)) (ex : List Str) (cs' : List Nat) :
    runStrict fenv tbl cs (pre ++ (o ++ '=' :: x) :: post) ≠ .ok ns ex cs' := by
  intro h
  obtain ⟨toks, _, _, hlex, _⟩ := runStrict_ok_inv h
  have hm := lexAll_mem hdd (eq_arg_ne_dd o x)
    (classify_eq tbl o x i ⟨r, hr⟩ (fun h => hne _ h rfl) hl hnl) hlex
  exact c04_negflag_eq_rejected fenv tbl hw cs _ toks hlex _ i o x act negs hm hact hk ho ns ex cs' h

/-! #### unknown long option -/

/-- A long token is lexed as an unknown option when its head `hd` — the part before the first
    `=`, the whole token if there is none — is a prefix of no option string (so neither the token
    nor its head is one, and there is no abbreviation), and it carries no blank. -/
theorem classify_unknown_long (tbl : List Act) (t hd : Str)
    (hhead : startsWith ('-' :: '-' :: t) hd = true)
    (hsplit : splitEq ('-' :: '-' :: t) = none ∧ hd = '-' :: '-' :: t ∨
      ∃ v, splitEq ('-' :: '-' :: t) = some (hd, v))
    (hsp : (('-' :: '-' :: t).contains ' ') = false)
    (hpre : ∀ a ∈ tbl, ∀ o ∈ a.opts, startsWith o hd = false) :
    classify tbl ('-' :: '-' :: t) = .ok (.O none ('-' :: '-' :: t) none) := by
  have hpre' : ∀ p ∈ optTable tbl, startsWith p.1 hd = false := by
    intro p hp
    obtain ⟨act, hact, ho⟩ := mem_optTable_idx hp
    exact hpre act (List.mem_of_getElem? hact) p.1 ho
  have hnone : ∀ x, startsWith x hd = true → (optTable tbl).lookup x = none := by
    intro x hx
    rw [List.lookup_eq_none_iff]
    intro p hp
    rw [bne_iff_ne]
    intro hh
    rw [hh, hpre' p hp] at hx
    cases hx
  have hfilter : (optTable tbl).filter (fun p => startsWith p.1 hd) = [] :=
    List.filter_eq_nil_iff.mpr (fun p hp => by simp [hpre' p hp])
  unfold classify
  rcases hsplit with ⟨hs, rfl⟩ | ⟨v, hs⟩
  · simp only [hnone _ hhead, hs, optionTuples, hfilter, looksNegNumber_dd, hsp]
    simp
  · simp only [hnone _ hhead, hs, hnone _ (startsWith_self hd), optionTuples, hfilter, looksNegNumber_dd, hsp]
    simp

/-- a command line that carries, before any literal `--`, a token lexed as an unknown option is
    never accepted by `parse_args` -/
theorem unknown_option_rejected (fenv : FEnv) (tbl : List Act) (cs : List Nat) (pre post : List Str)
    (a : Str) (hdd : ∀ x ∈ pre, x ≠ ['-', '-']) (ha : a ≠ ['-', '-'])
    (hc : classify tbl a = .ok (.O none a none)) (ns : List (Str × Val)) (ex : List Str) (cs' : List Nat) :
    runStrict fenv tbl cs (pre ++ a :: post) ≠ .ok ns ex cs' := by
  intro h
  obtain ⟨toks, _, _, hlex, _⟩ := runStrict_ok_inv h
  exact c04_unknown_rejected fenv tbl cs _ toks hlex ⟨_, lexAll_mem hdd ha hc hlex, _, _, rfl⟩ ns ex cs' h

/-- **C04 (unknown option), stated on the spelling.** A command line that carries, before any
    literal `--`, a long spelling `--r` (no `=`, no blank) that is not a prefix of — in particular
    not equal to — any option string of any action is never accepted: not with any other tokens
    around it, not with any closure state. (The lexer's verdict `O none` is derived here, not
    assumed as in `c04_unknown_rejected`.) -/
theorem c04_unknown_long_rejected (fenv : FEnv) (tbl : List Act) (cs : List Nat)
    (pre post : List Str) (r : Str) (hr : r ≠ [])
    (hdd : ∀ x ∈ pre, x ≠ ['-', '-'])
    (heq : splitEq ('-' :: '-' :: r) = none)
    (hsp : (('-' :: '-' :: r).contains ' ') = false)
    (hpre : ∀ a ∈ tbl, ∀ o ∈ a.opts, startsWith o ('-' :: '-' :: r) = false)
    (ns : List (Str × Val)) (ex : List Str) (cs' : List Nat) :
    runStrict fenv tbl cs (pre ++ ('-' :: '-' :: r) :: post) ≠ .ok ns ex cs' :=
  unknown_option_rejected fenv tbl cs pre post _ hdd (by simpa using hr)
    (classify_unknown_long tbl r _ (startsWith_self _) (.inl ⟨heq, rfl⟩) hsp hpre) ns ex cs'

/-! #### the statements on rendered command lines (`LexOk` / `ConsumeOk`) as corollaries -/

/-- **C04 (ill-typed token / out-of-set value).** If some value token of some segment can never
    pass its action's `type=` conversion and `choices=` check, the command line is not accepted —
    not coerced, not truncated, not defaulted — wherever that token stands. -/
theorem c04_bad_token_rejected (fenv : FEnv) (tbl : List Act) (cs : List Nat) (segs : List Seg)
    (hlex : ∀ s ∈ segs, LexOk tbl s) (hcons : ∀ s ∈ segs, ConsumeOk tbl s)
    (s : Seg) (hs : s ∈ segs) (act : Act) (hact : tbl[s.idx]? = some act) (t : Str)
    (ht : t ∈ s.toks) (hbad : NeverConverts fenv act s.idx t)
    (ns : List (Str × Val)) (ex : List Str) (cs' : List Nat) :
    runStrict fenv tbl cs (render segs) ≠ .ok ns ex cs' := by
  obtain ⟨s1, s2, rfl⟩ := List.append_of_mem hs
  obtain ⟨j, hj⟩ := List.getElem?_of_mem ht
  obtain ⟨act', hact', _, har⟩ := (hcons s hs).act
  rw [hact] at hact'; cases hact'
  have hsl := hlex s hs
  -- the segment is an occurrence of its option with dash-free values, behind the segments before it
  refine c04_bad_value_argv fenv tbl cs _ (render s1) s.opt s.idx s.toks (render s2)
    ⟨?_, ?_, hsl.lookup, hsl.optdash, hsl.notdd, hsl.nodash⟩ act hact j t hj
    (inTake_of_arityOk har (List.getElem?_eq_some_iff.mp hj).1) hbad ns ex cs'
  · simp only [render, renderSeg, List.flatMap_append, List.flatMap_cons, List.cons_append]
  · intro x hx
    obtain ⟨s', hs', hx⟩ := List.mem_flatMap.mp hx
    have hsl' := hlex s' (List.mem_append_left _ hs')
    rcases List.mem_cons.mp hx with rfl | hx
    · exact hsl'.notdd
    · exact nodash_ne_dd x (hsl'.nodash x hx)

/-! ### 6. type soundness: whatever is stored came out of the action's own `type=` callable -/

/-- `s` is something the action's conversion can produce (and its `choices` accept) -/
def InRange (fenv : FEnv) (act : Act) (s : Scalar) : Prop :=
  ∃ k t, act.conv.apply fenv k t = .ok s ∧
    (∀ ch, act.choices = some ch → ∃ u, s = .str u ∧ ch.contains u = true)

/-- the lengths `_get_values` can produce as a LIST for each `nargs` shape (`nargs=None` and a
    bare / single-valued `'?'` never give a list) -/
def ListArity : NArgs → Nat → Prop
  | .star, _ => True
  | .plus, k => 1 ≤ k
  | .num m, k => k = m
  | _, _ => False

/-- admissible stored values of an action: `None` only for a bare `nargs='?'` option, a single
    converted item only for `nargs=None` / `'?'`, a list of converted items only for `'*'`, `'+'`
    and `N` — and then with exactly `N` items -/
def ValOk (fenv : FEnv) (act : Act) (v : Val) : Prop :=
  match act.kind with
  | .boolOpt _ => ∃ b, v = .sc (.bool b)
  | _ => (v = .sc .none ∧ act.nargs = .opt) ∨
         (∃ s, v = .sc s ∧ InRange fenv act s ∧ (act.nargs = .one ∨ act.nargs = .opt)) ∨
         (∃ l, v = .list l ∧ (∀ s ∈ l, InRange fenv act s) ∧ ListArity act.nargs l.length)

/-- every namespace entry is either an action's declared default or an admissible stored value -/
def NsOk (fenv : FEnv) (tbl : List Act) (ns : List (Str × Val)) : Prop :=
  ∀ p ∈ ns, ∃ a ∈ tbl, a.dest = p.1 ∧
    (a.default = some p.2 ∨ ValOk fenv a p.2 ∨
      -- a string default that argparse ran through `type=` at the end of the parse
      ∃ s k v, a.default = some (.sc (.str s)) ∧ a.conv.apply fenv k s = .ok v ∧ p.2 = .sc v)

/-- the items of a stored LIST value were converted at consecutive closure positions starting at a
    `k0` that is a multiple of the arity for a fixed heterogeneous tuple -/
def PosOk (fenv : FEnv) (act : Act) (v : Val) : Prop :=
  ∀ l, v = .list l → ∃ k0,
    (∀ bs, act.conv = .tupleCounter bs → act.nargs = .num bs.length → k0 % bs.length = 0) ∧
    ∀ j s, l[j]? = some s → ∃ t, act.conv.apply fenv (k0 + j * tc act) t = .ok s

/-- `NsOk` with positions -/
def NsOkP (fenv : FEnv) (tbl : List Act) (ns : List (Str × Val)) : Prop :=
  ∀ p ∈ ns, ∃ a ∈ tbl, a.dest = p.1 ∧
    (a.default = some p.2 ∨ (ValOk fenv a p.2 ∧ PosOk fenv a p.2) ∨
      ∃ s k v, a.default = some (.sc (.str s)) ∧ a.conv.apply fenv k s = .ok v ∧ p.2 = .sc v)

theorem NsOkP.toNsOk {fenv : FEnv} {tbl : List Act} {ns : List (Str × Val)} (h : NsOkP fenv tbl ns) :
    NsOk fenv tbl ns := fun p hp =>
  -- the same entry, action and alternative; only the positions of a stored value are forgotten
  (h p hp).imp fun _ => And.imp_right (And.imp_right (Or.imp_right (Or.imp_left And.left)))

/-- the common shape of `NsOk` (`Q := ValOk fenv`) and `NsOkP`: every entry belongs to an action
    of the table and is its declared default, a stored value satisfying `Q`, or a string default
    that argparse ran through `type=` at the end of the parse -/
def NsInv (fenv : FEnv) (tbl : List Act) (Q : Act → Val → Prop) (ns : List (Str × Val)) : Prop :=
  ∀ p ∈ ns, ∃ a ∈ tbl, a.dest = p.1 ∧
    (a.default = some p.2 ∨ Q a p.2 ∨
      ∃ s k v, a.default = some (.sc (.str s)) ∧ a.conv.apply fenv k s = .ok v ∧ p.2 = .sc v)

theorem nsInv_setKey {fenv : FEnv} {tbl : List Act} {Q : Act → Val → Prop}
    {ns : List (Str × Val)} {act : Act} {v : Val} (hmem : act ∈ tbl) (hv : Q act v)
    (h : NsInv fenv tbl Q ns) : NsInv fenv tbl Q (setKey ns act.dest v) := by
  intro p hp
  rcases mem_setKey hp with rfl | hp
  · exact ⟨act, hmem, rfl, Or.inr (Or.inl hv)⟩
  · exact h p hp

theorem segVal_cases (n : NArgs) (vs : List Scalar) :
    segVal n vs = .sc .none ∨ (∃ v ∈ vs, segVal n vs = .sc v) ∨ segVal n vs = .list vs := by
  unfold segVal
  split
  · left; rfl
  · right; left; exact ⟨_, by simp, rfl⟩
  · right; left; exact ⟨_, by simp, rfl⟩
  · right; right; rfl

/-- the packaged value, given that the number of items fits `nargs` -/
theorem segVal_arity {n : NArgs} {vs : List Scalar} (h : arityOk n vs.length) :
    (segVal n vs = .sc .none ∧ n = .opt) ∨
    (∃ v, vs = [v] ∧ segVal n vs = .sc v ∧ (n = .one ∨ n = .opt)) ∨
    (segVal n vs = .list vs ∧ ListArity n vs.length) := by
  unfold segVal
  split
  · exact Or.inl ⟨rfl, rfl⟩
  · exact Or.inr (Or.inl ⟨_, rfl, rfl, Or.inl rfl⟩)
  · exact Or.inr (Or.inl ⟨_, rfl, rfl, Or.inr rfl⟩)
  · rename_i hnil hone hopt
    refine Or.inr (Or.inr ⟨rfl, ?_⟩)
    cases n with
    | one =>
      obtain ⟨v, rfl⟩ := List.length_eq_one_iff.mp h
      exact (hone v rfl rfl).elim
    | opt =>
      cases vs with
      | nil => exact (hnil rfl rfl).elim
      | cons v vs' =>
        cases vs' with
        | nil => exact (hopt v rfl rfl).elim
        | cons _ _ => exact absurd h (by simp [arityOk])
    | star => trivial
    | plus => exact h
    | num m => exact h

/-- **what a successful `take_action` stores** (given a number of arguments that fits `nargs`): a
    value admissible for the action, whose items — if it is a list — were converted at consecutive
    closure positions starting where the closure stood -/
theorem takeAction_stores {fenv : FEnv} {tbl : List Act} {st st' : St} {i : Nat} {o : Str}
    {args : List Str} {act : Act} (hact : tbl[i]? = some act)
    (har : arityOk act.nargs args.length) (h : takeAction fenv tbl st i o args = .ok st') :
    ∃ v, st'.ns = setKey st.ns act.dest v ∧ ValOk fenv act v ∧
      (i < st.counters.length → ∀ l, v = .list l → ∀ j s, l[j]? = some s →
        ∃ t, act.conv.apply fenv (st.counters.getD i 0 + j * tc act) t = .ok s) := by
  obtain ⟨act', vs, cs, v, hact', hl, rfl, hv⟩ := takeAction_ok_inv h
  rw [hact] at hact'; cases hact'
  obtain ⟨hlen, hget, _⟩ := getValuesList_ok_inv hl
  refine ⟨v, rfl, ?_⟩
  rcases hv with ⟨hk, rfl⟩ | ⟨negs, b, hk, rfl⟩
  · have hrange : ∀ s ∈ vs, InRange fenv act s := by
      intro s hs
      obtain ⟨j, hj⟩ := List.getElem?_of_mem hs
      obtain ⟨t, c, c', _, hg, _⟩ := hget j s hj
      exact ⟨_, t, (getValue_ok_inv hg).1, (getValue_ok_inv hg).2.1⟩
    constructor
    · simp only [ValOk, hk]
      rcases segVal_arity (hlen ▸ har) with ⟨h0, hn⟩ | ⟨v', hv', h0, hn⟩ | ⟨h0, hn⟩
      · exact Or.inl ⟨h0, hn⟩
      · exact Or.inr (Or.inl ⟨v', h0, hrange v' (by rw [hv']; exact List.mem_cons_self), hn⟩)
      · exact Or.inr (Or.inr ⟨vs, h0, hrange, hn⟩)
    · intro hi l hl j s hs
      have : l = vs := by
        rcases segVal_cases act.nargs vs with h0 | ⟨_, _, h0⟩ | h0 <;> rw [h0] at hl <;> cases hl
        rfl
      subst this
      obtain ⟨t, c, c', _, hg, hc⟩ := hget j s hs
      exact ⟨t, hc hi ▸ (getValue_ok_inv hg).1⟩
  · exact ⟨by simp only [ValOk, hk]; exact ⟨b, rfl⟩, fun _ l hl => nomatch hl⟩

/-- the namespace invariant through a whole parse, for a property `Q` of stored values that every
    `take_action` of the loop establishes in states satisfying the loop invariant `I` -/
theorem run_nsInv {fenv : FEnv} {tbl : List Act} {cs : List Nat} {argv : List Str}
    {ns : List (Str × Val)} {ex : List Str} {cs' : List Nat} (Q : Act → Val → Prop) (I : St → Prop)
    (hI0 : I ⟨initNs tbl, [], [], cs⟩)
    (hI : ∀ st p rest st2 rest2, I st → Step fenv tbl st p rest st2 rest2 → I st2)
    (hQ : ∀ st i o args st2 act, I st → tbl[i]? = some act → arityOk act.nargs args.length →
      takeAction fenv tbl st i o args = .ok st2 → ∃ v, st2.ns = setKey st.ns act.dest v ∧ Q act v)
    (h : run fenv tbl cs argv = .ok ns ex cs') : NsInv fenv tbl Q ns := by
  obtain ⟨toks, st, st2, _, hc, hf, rfl, _, _⟩ := run_ok_inv h
  have h0 : NsInv fenv tbl Q (initNs tbl) := by
    intro p hp
    obtain ⟨a, ha, hd, hdef⟩ := mem_initNs hp
    exact ⟨a, ha, hd, Or.inl hdef⟩
  have h1 := consume_inv (P := fun s => NsInv fenv tbl Q s.ns ∧ I s)
    (by
      intro s p rest s2 r2 _ hs hst
      refine ⟨?_, hI s p rest s2 r2 hs.2 hst⟩
      rcases hst.cases' with rfl | ⟨i, o, ex, ac, args, _, hact, _, har, htk⟩
      · exact hs.1
      · obtain ⟨v, hns, hv⟩ := hQ s i o args s2 ac hs.2 hact har htk
        rw [hns]
        exact nsInv_setKey (List.mem_of_getElem? hact) hv hs.1)
    hc ⟨h0, hI0⟩
  intro q hq
  rcases (finish_ok_inv hf).2.2.2.2 q hq with hq | ⟨p, hp, s, k, v, hdef, hv, rfl⟩
  · exact h1.1 q hq
  · exact ⟨p.1, List.fst_mem_of_mem_zipIdx hp, rfl, Or.inr (Or.inr ⟨s, k, v, hdef, hv, rfl⟩)⟩

/-- **C04 (well-typed results).** For EVERY argv: whenever the engine returns a namespace, each
    entry is (i) the declared default of an action with that destination, or (ii) a value produced
    by that action's own `type=` callable and accepted by its `choices` (a scalar, `None` for a bare
    `nargs='?'` option, or a list of such scalars; a bool for a boolean flag), or (iii) a string
    default run through `type=`. No raw, unconverted or partially converted token is ever stored. -/
theorem c04_sound (fenv : FEnv) (tbl : List Act) (cs : List Nat) (argv : List Str)
    (ns : List (Str × Val)) (ex : List Str) (cs' : List Nat)
    (h : run fenv tbl cs argv = .ok ns ex cs') : NsOk fenv tbl ns := by
  exact run_nsInv (ValOk fenv) (fun _ => True) trivial (fun _ _ _ _ _ _ _ => trivial)
    (fun st i o args st2 act _ hact har htk =>
      let ⟨v, hns, hv, _⟩ := takeAction_stores hact har htk
      ⟨v, hns, hv⟩) h

/-- **C04 (well-typed results, with positions).** On a parser whose `parse_tuple` counters are
    aligned (a new parser; any parser after accepted parses): every stored list was converted item
    by item at consecutive closure positions starting at a multiple of the tuple's arity — so item
    `j` of a `Tuple[t0, …]` value was produced by the parser of `tj`, not of some other position. -/
theorem c04_sound_positions (fenv : FEnv) (tbl : List Act) (cs : List Nat) (argv : List Str)
    (ns : List (Str × Val)) (ex : List Str) (cs' : List Nat) (hal : Aligned tbl cs)
    (h : run fenv tbl cs argv = .ok ns ex cs') : NsOkP fenv tbl ns := by
  refine run_nsInv (fun a v => ValOk fenv a v ∧ PosOk fenv a v) (fun s => Aligned tbl s.counters)
    hal (fun _ _ _ _ _ hs hst => step_aligned hs hst) ?_ h
  intro st i o args st2 act hal hact har htk
  obtain ⟨v, hns, hv, hpos⟩ := takeAction_stores hact har htk
  have hi : i < st.counters.length := by
    rw [hal.1]; exact (List.getElem?_eq_some_iff.mp hact).1
  exact ⟨v, hns, hv, fun l hl =>
    ⟨st.counters.getD i 0, fun bs hc hn => hal.2 i act bs hact hc hn, hpos hi l hl⟩⟩

/-- what the converters can produce, per base type: an `int` option only ever yields ints, … -/
theorem conv_int_range {fenv : FEnv} {s : Str} {v : Scalar} (h : BConv.apply fenv .int s = .ok v) :
    ∃ i, v = .int i := by
  simp only [BConv.apply, parseInt] at h
  split at h
  · cases h
  · split at h <;> (split at h <;> first | (cases h; exact ⟨_, rfl⟩) | cases h)

theorem conv_bool_range {fenv : FEnv} {s : Str} {v : Scalar} (h : BConv.apply fenv .bool s = .ok v) :
    ∃ b, v = .bool b := by
  simp only [BConv.apply] at h
  split at h
  · cases h; exact ⟨_, rfl⟩
  · cases h

theorem conv_float_range {fenv : FEnv} {s : Str} {v : Scalar} (h : BConv.apply fenv .float s = .ok v) :
    ∃ r, v = .float r := by
  simp only [BConv.apply] at h
  split at h
  · cases h; exact ⟨_, rfl⟩
  · cases h
  · cases h

theorem conv_enum_range {fenv : FEnv} {cls : Str} {ms : List Str} {s : Str} {v : Scalar}
    (h : BConv.apply fenv (.enumName cls ms) s = .ok v) : ∃ m, v = .enum cls m ∧ m ∈ ms := by
  simp only [BConv.apply] at h
  split at h
  · rename_i hm; cases h; exact ⟨s, rfl, by simpa using hm⟩
  · cases h

/-! ### 7. never a traceback (full since the repair of the `parse_tuple` counter, fix b1a5942) -/

/-- the unrestricted statement over arbitrary tables … -/
def NoTraceback : Prop :=
  ∀ (fenv : FEnv) (tbl : List Act) (argv : List Str) (e : Str),
    runStrict fenv tbl (tbl.map (fun _ => 0)) argv ≠ .raise e

/-- regression (finding C04-hetero-tuple-option-twice, repaired by b1a5942): `--t 1 a --t 2 b` on
    a `Tuple[int, str]` field raised IndexError from the closure counter; now the last occurrence
    wins and the counter is back at a multiple of the arity -/
example : runStrict [] tupTbl (tupTbl.map (fun _ => 0))
      ["--t".toList, "1".toList, "a".toList, "--t".toList, "2".toList, "b".toList]
    = .ok [("c.t".toList, .list [.int 2, .str "b".toList])] [] [4] := by decide_lit

/-- the only way the model can raise from a converter: a closure over no item type at all — which
    the unrestricted statement does not exclude -/
theorem c04_no_traceback_illformed_witness : ¬ NoTraceback := by
  intro h
  exact h [] [ { opts := ["--t".toList], dest := "c.t".toList, kind := .store, nargs := .num 1,
                 conv := .tupleCounter [], choices := none, required := false,
                 default := some (.sc .none) } ] ["--t".toList, "1".toList]
    "IndexError".toList (by decide_lit)

theorem bconv_noraise {fenv : FEnv} {b : BConv} {s : Str} {x : Str} : b.apply fenv s ≠ .raise x := by
  cases b <;> simp only [BConv.apply, parseInt, parsePath]
  · split
    · simp
    · split <;> (split <;> simp)
  · split <;> simp
  · simp
  · split <;> simp
  · split
    · simp
    · split <;> simp
  · simp
  · split <;> simp

theorem union_noraise {fenv : FEnv} {cs : List BConv} {s : Str} {x : Str} :
    unionApply fenv cs s ≠ .raise x := by
  induction cs with
  | nil => simp [unionApply]
  | cons c cs ih =>
    simp only [unionApply]
    split
    · simp
    · simp
    · exact ih

/-- a `type=` callable raises nothing but what argparse catches — unless it is a `parse_tuple`
    closure over no item type at all -/
theorem conv_noraise {fenv : FEnv} {c : Conv} {k : Nat} {s : Str} {x : Str}
    (h : ∀ cs, c = .tupleCounter cs → cs ≠ []) : c.apply fenv k s ≠ .raise x := by
  cases c with
  | base b => exact bconv_noraise
  | union cs => exact union_noraise
  | tupleCounter cs =>
    have hne := h cs rfl
    have hlt : k % cs.length < cs.length := Nat.mod_lt _ (List.length_pos_iff.mpr hne)
    simp only [Conv.apply, List.getElem?_eq_getElem hlt]
    exact bconv_noraise

/-- **C04 (no traceback), partial.** On a well-formed table (`NoRaiseTbl`: no `parse_tuple` closure
    over no item type, boolean actions as simple-parsing builds them) the engine never lets an
    exception escape: for EVERY argv the outcome is a namespace, an exit, or "outside the modelled
    fragment". -/
theorem c04_no_traceback_partial (fenv : FEnv) (tbl : List Act) (hw : NoRaiseTbl tbl)
    (cs : List Nat) (argv : List Str) (x : Str) : runStrict fenv tbl cs argv ≠ .raise x := by
  intro h
  have hconv : ∀ a ∈ tbl, ∀ k s, a.conv.apply fenv k s ≠ .raise x :=
    fun a ha k s => conv_noraise (hw.stateless a ha)
  rcases runStrict_err h nofun (fun _ _ _ => nofun) with
    he | he | ⟨a, ha, he | ⟨_, k, s, hap, he⟩ | he⟩ | ⟨_, _, _, _, _, act, _, _, hact, hcase⟩
  · cases he
  · cases he
  · cases he
  · cases he; exact hconv a ha k s hap
  · cases he
  · have hmem : act ∈ tbl := List.mem_of_getElem? hact
    rcases hcase with ⟨_, he | he | he⟩ |
      ⟨_, he | (he | he | ⟨_, k, s, hap, he⟩ | he) | ⟨negs, hk, he | ⟨_, hdead⟩⟩⟩
    · cases he
    · cases he
    · cases he
    · cases he
    · cases he
    · cases he
    · cases he; exact hconv act hmem k s hap
    · cases he
    · cases he
    · exact hdead (hw.boolwf act hmem negs hk)

/-- non-vacuity: `--zzz` is an unknown token for a table with `--n` and `--l`; the demo table
    satisfies `NoRaiseTbl`; a missing required `--n` is rejected by the model -/
example : lexAll demoTbl ["--n".toList, "1".toList, "--zzz".toList] =
    .ok [.O (some 1) "--n".toList none, .A, .O none "--zzz".toList none] := by rfl_lit

theorem demoTbl_noRaise : NoRaiseTbl demoTbl :=
  ⟨(by
    intro a ha cs hc
    rcases List.mem_cons.mp ha with rfl | ha
    · cases hc
    · rcases List.mem_cons.mp ha with rfl | ha
      · cases hc
      · obtain rfl := List.mem_singleton.mp ha
        cases hc),
   by
    intro a ha negs hk
    rcases List.mem_cons.mp ha with rfl | ha
    · cases hk
    · rcases List.mem_cons.mp ha with rfl | ha
      · cases hk
      · obtain rfl := List.mem_singleton.mp ha
        cases hk⟩

example : NoRaiseTbl demoTbl := demoTbl_noRaise

theorem run_l_a_b :
    runStrict [] demoTbl [0, 0, 0] ["--l".toList, "a".toList, "b".toList] = .exit 2 .required := by
  decide_lit

example : runStrict [] demoTbl [0, 0, 0] ["--l".toList, "a".toList, "b".toList] = .exit 2 .required :=
  run_l_a_b

/-- **C04 (rejected means status 2).** On a well-formed table (every table simple-parsing builds,
    `tableOf_noRaiseTbl`) and a command line without help token, "not accepted" IS "exit status 2"
    — up to type conversions outside the modelled fragment. Composes with every rejection theorem
    (`c04_unknown_rejected`, `c04_missing_required_any`, `c04_negflag_*`, `c04_arity_*`,
    `c04_bad_value_*`), which conclude `≠ .ok`. -/
theorem c04_rejection_is_status2 (fenv : FEnv) (tbl : List Act) (hw : NoRaiseTbl tbl)
    (cs : List Nat) (argv : List Str) (hnh : NoHelpToken tbl argv)
    (hrej : ∀ ns ex cs', runStrict fenv tbl cs argv ≠ .ok ns ex cs') :
    (∃ k, runStrict fenv tbl cs argv = .exit 2 k) ∨
      ∃ w, runStrict fenv tbl cs argv = .unmodelled w ∧ ConversionWhy w := by
  cases hr : runStrict fenv tbl cs argv with
  | ok ns ex cs' => exact absurd hr (hrej ns ex cs')
  | exit c k =>
    rcases c04_status fenv tbl cs argv c k hr with h2 | ⟨h0, _, _⟩
    · subst h2; exact Or.inl ⟨k, rfl⟩
    · subst h0
      obtain ⟨toks, a, i, o, ex, act, hlex, hm, hact, hk⟩ := c04_exit0_needs_help_token fenv tbl cs argv k hr
      exact absurd hk (hnh toks i o ex act hlex (List.of_mem_zip hm).2 hact)
  | raise x => exact absurd hr (c04_no_traceback_partial fenv tbl hw cs argv x)
  | unmodelled w => exact Or.inr ⟨w, rfl, c04_unmodelled_reasons fenv tbl cs argv w hr⟩

/-! ### 8. what `get_arg_options` hands to argparse, per annotation (the action's SHAPE); every table
    simple-parsing builds for a flat dataclass meets the well-formedness hypothesis of "never a
    traceback" (so the theorem is unconditional there) -/

structure AO (ao : ArgOpts) (n : NArgs) (c : Conv) (ch : Option (List Str)) (b : Bool) (d : Val) :
    Prop where
  nargs : ao.nargs = n
  conv : ao.conv = c
  choices : ao.choices = ch
  isBool : ao.isBool = b
  default : ao.default = d

/-- the branch of `get_arg_options` a field goes through, with everything the action gets -/
inductive ShapeOf (f : FieldSpec) (ao : ArgOpts) : Prop
  | literal (vals : List Scalar) (names : List Str) : f.ty.optional = false →
      f.ty.inner = .literal vals → vals.mapM literalName = some names →
      AO ao .one (.base .str) (some names) false (defaultVal f.default) → ShapeOf f ao
  | tuple (items : List ITy) (c : Conv) : f.ty.inner = .tuple items → tupleConv items = some c →
      AO ao (.num items.length) c none false (defaultVal f.default) → ShapeOf f ao
  | vtuple (item : ITy) : f.ty.inner = .vtuple item →
      AO ao .star (convOfItem item) none false (defaultVal f.default) → ShapeOf f ao
  | list (item : ITy) (c : Conv) : f.ty.inner = .list item → containerConv item = some c →
      AO ao .star c none false (defaultVal f.default) → ShapeOf f ao
  | optScalar (t : ITy) : (f.ty.optional = true ∨ f.default = .value (.sc .none)) →
      f.ty.inner = .sc t → AO ao .opt (convOfItem t) none false (defaultVal f.default) → ShapeOf f ao
  | enum (cls : Str) (ms : List Str) : f.ty.optional = false →
      f.ty.inner = .sc (.base (.enum cls ms)) →
      AO ao .one (.base .str) (some ms) false (enumByName (defaultVal f.default)) → ShapeOf f ao
  | bool : f.ty.optional = false → f.ty.inner = .sc (.base .bool) →
      AO ao .opt (.base .bool) none true (defaultVal f.default) → ShapeOf f ao
  | scalar (t : ITy) : f.ty.optional = false → f.ty.inner = .sc t →
      AO ao .one (convOfItem t) none false (defaultVal f.default) → ShapeOf f ao

/-- `argOptions_some`, read off annotation by annotation -/
theorem argOptions_shape {f : FieldSpec} {ao : ArgOpts} (h : argOptions f = some ao) : ShapeOf f ao := by
  obtain ⟨hs, -, hd⟩ := argOptions_some h
  obtain ⟨nargs, conv, choices, req, dflt, isBool⟩ := ao
  obtain ⟨name, ⟨inner, opt⟩, d, als⟩ := f
  cases inner with
  | literal vals =>
    cases opt
    · obtain ⟨names, hm, heq⟩ := Option.map_eq_some_iff.mp hs
      cases heq
      exact .literal vals names rfl rfl hm ⟨rfl, rfl, rfl, rfl, hd⟩
    · cases hs
  | tuple items =>
    obtain ⟨c, hc, heq⟩ := Option.map_eq_some_iff.mp hs
    cases heq
    exact .tuple items _ rfl hc ⟨rfl, rfl, rfl, rfl, hd⟩
  | vtuple item => cases hs; exact .vtuple item rfl ⟨rfl, rfl, rfl, rfl, hd⟩
  | list item =>
    obtain ⟨c, hc, heq⟩ := Option.map_eq_some_iff.mp hs
    cases heq
    exact .list item _ rfl hc ⟨rfl, rfl, rfl, rfl, hd⟩
  | sc t =>
    rw [argShape_sc rfl] at hs
    split at hs
    · next hsoft =>
      cases hs
      exact .optScalar t (softField_iff.mp hsoft) rfl ⟨rfl, rfl, rfl, rfl, hd.trans (argDefault_soft hsoft)⟩
    · next hsoft =>
      have hopt : opt = false := by cases opt <;> first | rfl | exact absurd rfl hsoft
      subst hopt
      split at hs <;> cases hs
      · exact .enum _ _ rfl rfl ⟨rfl, rfl, rfl, rfl, hd⟩
      · exact .bool rfl rfl ⟨rfl, rfl, rfl, rfl, hd⟩
      · next hne _ =>
        exact .scalar t rfl rfl
          ⟨rfl, rfl, rfl, rfl, hd.trans (argDefault_of_ty fun c ms h => (hne c ms (NTy.sc.inj h)).elim)⟩

theorem mapM_mem {α β : Type} (g : α → Option β) (l : List α) : ∀ (as : List β), l.mapM g = some as →
    ∀ a ∈ as, ∃ x ∈ l, g x = some a := by
  induction l with
  | nil => intro as h a ha; cases h; cases ha
  | cons x xs ih =>
    intro as h a ha
    rw [List.mapM_cons] at h
    obtain ⟨b, hb, h⟩ := Option.bind_eq_some_iff.mp h
    obtain ⟨bs, hbs, h⟩ := Option.bind_eq_some_iff.mp h
    cases h
    rcases List.mem_cons.mp ha with rfl | ha
    · exact ⟨x, List.mem_cons_self, hb⟩
    · obtain ⟨y, hy, hg⟩ := ih bs hbs a ha
      exact ⟨y, List.mem_cons_of_mem _ hy, hg⟩

theorem tableOf_mem (cfg : Cfg) (dest : Str) (fs : List FieldSpec) (tbl : List Act)
    (h : tableOf cfg dest fs = some tbl) (a : Act) (ha : a ∈ tbl) :
    a = helpAct ∨ ∃ f ∈ fs, fieldAct cfg dest f = some a := by
  unfold tableOf at h
  obtain ⟨acts, hm, rfl⟩ := Option.map_eq_some_iff.mp h
  rcases List.mem_cons.mp ha with rfl | ha'
  · exact Or.inl rfl
  · exact Or.inr (mapM_mem _ fs acts hm a ha')

theorem convOfItem_wf (t : ITy) : ∀ cs, convOfItem t ≠ .tupleCounter cs := by
  intro cs; cases t <;> nofun

/-- `get_argparse_type_for_container`: `str` for `Any` items, else the item's own parser -/
theorem containerConv_cases {item : ITy} {c : Conv} (h : containerConv item = some c) :
    (item = .base .any ∧ c = .base .str) ∨ c = convOfItem item := by
  cases item with
  | union alts => cases h; exact Or.inr rfl
  | base b =>
    cases b with
    | any => cases h; exact Or.inl ⟨rfl, rfl⟩
    | _ => cases h; exact Or.inr rfl

theorem containerConv_wf {item : ITy} {c : Conv} (h : containerConv item = some c) :
    ∀ cs, c ≠ .tupleCounter cs := by
  rcases containerConv_cases h with ⟨_, rfl⟩ | rfl
  · nofun
  · exact convOfItem_wf item

/-- if every item type goes through `F` — the converter of a base type, nothing for a Union — all
    of them are base types -/
theorem filterMap_base_full (F : ITy → Option BConv) (hb : ∀ b, F (.base b) = some (bconvOf b))
    (hu : ∀ a, F (.union a) = none) (l : List ITy) (hl : (l.filterMap F).length = l.length) :
    ∃ bts : List BTy, l = bts.map .base ∧ l.filterMap F = bts.map bconvOf := by
  induction l with
  | nil => exact ⟨[], rfl, rfl⟩
  | cons t ts ih =>
    cases t with
    | union a =>
      rw [List.filterMap_cons_none (hu a)] at hl
      exact absurd (hl ▸ List.length_filterMap_le F ts) (Nat.not_succ_le_self _)
    | base b =>
      rw [List.filterMap_cons_some (hb b)] at hl ⊢
      obtain ⟨bts, h1, h2⟩ := ih (Nat.succ.inj hl)
      exact ⟨b :: bts, congrArg (ITy.base b :: ·) h1, congrArg (bconvOf b :: ·) h2⟩

/-- `get_parsing_fn(Tuple[...])`: `str` for the empty tuple, the item parser for a homogeneous one,
    else `parse_tuple` over the parsers of the (base) item types, one per position -/
theorem tupleConv_cases {items : List ITy} {c : Conv} (h : tupleConv items = some c) :
    (items = [] ∧ c = .base .str) ∨
    (∃ t rest, items = t :: rest ∧ allEq items = true ∧ c = convOfItem t) ∨
    ∃ bts : List BTy, bts ≠ [] ∧ items = bts.map .base ∧ c = .tupleCounter (bts.map bconvOf) := by
  unfold tupleConv at h
  cases items with
  | nil => cases h; exact Or.inl ⟨rfl, rfl⟩
  | cons t rest =>
    simp only at h
    split at h
    · next hall => cases h; exact Or.inr (Or.inl ⟨t, rest, rfl, hall, rfl⟩)
    · split at h
      · next hfull =>
        cases h
        obtain ⟨bts, h1, h2⟩ := filterMap_base_full _ (fun _ => rfl) (fun _ => rfl) _ hfull
        refine Or.inr (Or.inr ⟨bts, ?_, h1, congrArg _ h2⟩)
        rintro rfl
        cases h1
      · cases h

theorem tupleConv_counter {items : List ITy} {bs : List BConv}
    (h : tupleConv items = some (.tupleCounter bs)) : bs.length = items.length ∧ bs ≠ [] := by
  rcases tupleConv_cases h with ⟨_, hc⟩ | ⟨t, _, _, _, hc⟩ | ⟨bts, hne, rfl, hc⟩
  · cases hc
  · exact absurd hc.symm (convOfItem_wf t bs)
  · cases hc
    exact ⟨by rw [List.length_map, List.length_map], fun h => hne (List.map_eq_nil_iff.mp h)⟩

theorem argOptions_wf {f : FieldSpec} {ao : ArgOpts} (h : argOptions f = some ao) :
    (∀ cs, ao.conv = .tupleCounter cs → cs ≠ []) ∧
      (ao.isBool = true → ao.nargs = .opt ∧ ao.conv = .base .bool) := by
  cases argOptions_shape h with
  | tuple items c _ htc hao =>
    rw [hao.conv, hao.isBool]
    exact ⟨fun cs hcs => (tupleConv_counter (hcs ▸ htc)).2, nofun⟩
  | list item c _ hcc hao =>
    rw [hao.conv, hao.isBool]
    exact ⟨fun cs hcs => absurd hcs (containerConv_wf hcc cs), nofun⟩
  | vtuple item _ hao =>
    rw [hao.conv, hao.isBool]
    exact ⟨fun cs hcs => absurd hcs (convOfItem_wf item cs), nofun⟩
  | optScalar t _ _ hao =>
    rw [hao.conv, hao.isBool]
    exact ⟨fun cs hcs => absurd hcs (convOfItem_wf t cs), nofun⟩
  | bool _ _ hao => rw [hao.conv, hao.nargs]; exact ⟨nofun, fun _ => ⟨rfl, rfl⟩⟩
  | literal _ _ _ _ _ hao => rw [hao.conv, hao.isBool]; exact ⟨nofun, nofun⟩
  | «enum» _ _ _ _ hao => rw [hao.conv, hao.isBool]; exact ⟨nofun, nofun⟩
  | scalar t _ _ hao =>
    rw [hao.conv, hao.isBool]
    exact ⟨fun cs hcs => absurd hcs (convOfItem_wf t cs), nofun⟩

/-- every table simple-parsing builds for a flat dataclass is well-formed in the sense of
    `NoRaiseTbl`: tuple closures are over at least one item type, boolean actions are
    `nargs='?'` with `type=str2bool` -/
theorem tableOf_noRaiseTbl (cfg : Cfg) (dest : Str) (fs : List FieldSpec) (tbl : List Act)
    (h : tableOf cfg dest fs = some tbl) : NoRaiseTbl tbl := by
  have key : ∀ a ∈ tbl, (∀ cs, a.conv = .tupleCounter cs → cs ≠ []) ∧
      (∀ negs, a.kind = .boolOpt negs → a.nargs = .opt ∧ a.conv = .base .bool) := by
    intro a ha
    rcases tableOf_mem cfg dest fs tbl h a ha with rfl | ⟨f, _, hf⟩
    · exact ⟨nofun, nofun⟩
    · obtain ⟨ao, negs, hao, _, hk, hn, hc, _⟩ := fieldAct_inv hf
      obtain ⟨h1, h2⟩ := argOptions_wf hao
      rw [hk, hn, hc]
      refine ⟨h1, fun negs' hk' => ?_⟩
      cases hb : ao.isBool with
      | false => rw [hb] at hk'; cases hk'
      | true => exact h2 hb
  exact ⟨fun a ha => (key a ha).1, fun a ha => (key a ha).2⟩

/-- **C04 (never a traceback), for every flat dataclass**: whatever the fields (of the modelled
    annotation grammar), whatever the argv and the closure state, parsing ends in a result or an
    argparse exit — no exception escapes the engine. -/
theorem c04_no_traceback_flat (fenv : FEnv) (cfg : Cfg) (dest : Str) (fs : List FieldSpec)
    (tbl : List Act) (h : tableOf cfg dest fs = some tbl) (cs : List Nat) (argv : List Str) (x : Str) :
    runStrict fenv tbl cs argv ≠ .raise x :=
  c04_no_traceback_partial fenv tbl (tableOf_noRaiseTbl cfg dest fs tbl h) cs argv x

/-! ### 9. well-typed against the ANNOTATION, not against the action's own `type=` -/

/-- a scalar value conforms to a base type (`Any` accepts everything) -/
def BConforms : BTy → Scalar → Prop
  | .int, .int _ => True
  | .float, .float _ => True
  | .str, .str _ => True
  | .bool, .bool _ => True
  | .path, .path _ => True
  | .any, _ => True
  | .enum c ms, .enum c' m => c' = c ∧ m ∈ ms
  | _, _ => False

def IConforms : ITy → Scalar → Prop
  | .base b, s => BConforms b s
  | .union alts, s => ∃ b ∈ alts, BConforms b s

/-- position-wise conformance with equal lengths (`Tuple[t1, …, tn]`) -/
def TupleConforms : List ITy → List Scalar → Prop
  | [], [] => True
  | t :: ts, s :: ss => IConforms t s ∧ TupleConforms ts ss
  | _, _ => False

/-- a value conforms to a non-optional annotation: item-wise for `List[T]` / `Tuple[T, ...]`,
    POSITION-wise and with the exact length for `Tuple[t1, …, tn]`, one of the values for `Literal` -/
def NConforms : NTy → Val → Prop
  | .sc t, .sc s => IConforms t s
  | .literal vals, .sc s => s ∈ vals
  | .list item, .list l => ∀ s ∈ l, IConforms item s
  | .tuple items, .tuple l => TupleConforms items l
  | .vtuple item, .tuple l => ∀ s ∈ l, IConforms item s
  | _, _ => False

/-- **conformance of a field value to the field's annotation** -/
def Conforms (t : FTy) (v : Val) : Prop :=
  (t.optional = true ∧ v = .sc .none) ∨ NConforms t.inner v

theorem bconv_conforms {fenv : FEnv} {b : BTy} {s : Str} {v : Scalar}
    (h : (bconvOf b).apply fenv s = .ok v) : BConforms b v := by
  cases b with
  | int => obtain ⟨i, rfl⟩ := conv_int_range h; trivial
  | float => obtain ⟨r, rfl⟩ := conv_float_range h; trivial
  | str => cases h; trivial
  | bool => obtain ⟨b, rfl⟩ := conv_bool_range h; trivial
  | path =>
    simp only [bconvOf, BConv.apply, parsePath] at h
    split at h
    · cases h; trivial
    · split at h
      · cases h; trivial
      · cases h
  | any => cases v <;> trivial
  | «enum» cls ms =>
    obtain ⟨m, rfl, hm⟩ := conv_enum_range h
    exact ⟨rfl, hm⟩

theorem union_conforms {fenv : FEnv} {alts : List BTy} {s : Str} {v : Scalar}
    (h : unionApply fenv (alts.map bconvOf) s = .ok v) : ∃ b ∈ alts, BConforms b v := by
  induction alts with
  | nil => cases h
  | cons b bs ih =>
    simp only [List.map_cons, unionApply] at h
    split at h
    · rename_i w hw
      cases h
      exact ⟨b, List.mem_cons_self, bconv_conforms hw⟩
    · cases h
    · obtain ⟨b', hb', hc⟩ := ih h
      exact ⟨b', List.mem_cons_of_mem _ hb', hc⟩

theorem convOfItem_conforms {fenv : FEnv} {t : ITy} {k : Nat} {s : Str} {v : Scalar}
    (h : (convOfItem t).apply fenv k s = .ok v) : IConforms t v := by
  cases t with
  | base b => exact bconv_conforms (fenv := fenv) h
  | union alts => exact union_conforms h

theorem containerConv_conforms {fenv : FEnv} {item : ITy} {c : Conv}
    (hc : containerConv item = some c) {k : Nat} {s : Str} {v : Scalar}
    (h : c.apply fenv k s = .ok v) : IConforms item v := by
  rcases containerConv_cases hc with ⟨rfl, rfl⟩ | rfl
  · cases h; trivial
  · exact convOfItem_conforms h

theorem tupleConforms_of_get (l1 : List ITy) :
    ∀ (l2 : List Scalar), l1.length = l2.length →
      (∀ (j : Nat) a b, l1[j]? = some a → l2[j]? = some b → IConforms a b) → TupleConforms l1 l2 := by
  induction l1 with
  | nil =>
    intro l2 h _
    cases l2 with
    | nil => trivial
    | cons _ _ => cases h
  | cons a as ih =>
    intro l2 h hr
    cases l2 with
    | nil => cases h
    | cons b bs =>
      exact ⟨hr 0 a b rfl rfl, ih bs (Nat.succ.inj h) fun j x y hx hy => hr (j + 1) x y hx hy⟩

/-- items converted by the `type=` of a fixed tuple, at aligned positions, conform position-wise -/
theorem tupleConv_conforms {fenv : FEnv} {items : List ITy} {c : Conv} (hc : tupleConv items = some c)
    {l : List Scalar} (hlen : l.length = items.length) (k0 : Nat)
    (hk0 : ∀ bs, c = .tupleCounter bs → k0 % bs.length = 0)
    (hpos : ∀ j s, l[j]? = some s → ∃ t, c.apply fenv (k0 + j * (match c with | .tupleCounter _ => 1 | _ => 0)) t = .ok s) :
    TupleConforms items l := by
  apply tupleConforms_of_get items l hlen.symm
  intro j it s hit hs
  obtain ⟨t, ht⟩ := hpos j s hs
  rcases tupleConv_cases hc with ⟨rfl, _⟩ | ⟨t0, rest, rfl, hall, rfl⟩ | ⟨bts, _, rfl, rfl⟩
  · cases hit
  · -- all item types are the first one
    have hit' : it = t0 := by
      rcases List.mem_cons.mp (List.mem_of_getElem? hit) with h | h
      · exact h
      · exact of_decide_eq_true (List.all_eq_true.mp hall it h)
    exact hit' ▸ convOfItem_conforms ht
  · -- position `j` of an aligned closure is the parser of item type `j`
    rw [List.getElem?_map] at hit
    obtain ⟨bt, hbt, rfl⟩ := Option.map_eq_some_iff.mp hit
    have hjn : j < (bts.map bconvOf).length := by
      rw [List.length_map]; exact (List.getElem?_eq_some_iff.mp hbt).1
    have hidx : (k0 + j * 1) % (bts.map bconvOf).length = j := by
      rw [Nat.mul_one, Nat.add_mod, hk0 _ rfl, Nat.zero_add, Nat.mod_mod, Nat.mod_eq_of_lt hjn]
    rw [Conv.apply, hidx, List.getElem?_map, hbt] at ht
    exact bconv_conforms ht
/-! #### `postprocess`, annotation by annotation -/

theorem listToTuple_list (l : List Scalar) : listToTuple (.list l) = .tuple l := rfl
theorem tupleToList_list (l : List Scalar) : tupleToList (.list l) = .list l := rfl

/-- `postprocess` leaves a conforming scalar of a non-optional scalar field alone -/
theorem postprocess_sc_id {f : FieldSpec} {t : ITy} {s : Scalar} (hopt : f.ty.optional = false)
    (hin : f.ty.inner = .sc t) (hc : IConforms t s) : postprocess f (.sc s) = .ok (.sc s) := by
  unfold postprocess
  rw [hopt, hin]
  cases t with
  | union alts => rfl
  | base b =>
    cases b with
    | «enum» cls ms => cases s <;> first | exact hc.elim | rfl
    | path => cases s <;> first | exact hc.elim | rfl
    | _ => rfl

/-! #### from the engine's invariant to the annotation -/

theorem valOk_store_scalar {fenv : FEnv} {a : Act} {raw : Val} (hk : a.kind = .store)
    (hn : a.nargs = .one ∨ a.nargs = .opt) (h : ValOk fenv a raw) :
    (raw = .sc .none ∧ a.nargs = .opt) ∨ ∃ s, raw = .sc s ∧ InRange fenv a s := by
  simp only [ValOk, hk] at h
  rcases h with ⟨h1, h2⟩ | ⟨s, h1, h2, _⟩ | ⟨l, _, _, h3⟩
  · exact Or.inl ⟨h1, h2⟩
  · exact Or.inr ⟨s, h1, h2⟩
  · rcases hn with hn | hn <;> (rw [hn] at h3; exact h3.elim)

theorem valOk_store_list {fenv : FEnv} {a : Act} {raw : Val} (hk : a.kind = .store)
    (hn : a.nargs = .star ∨ ∃ m, a.nargs = .num m) (h : ValOk fenv a raw) :
    ∃ l, raw = .list l ∧ (∀ s ∈ l, InRange fenv a s) ∧ ListArity a.nargs l.length := by
  simp only [ValOk, hk] at h
  rcases h with ⟨_, h2⟩ | ⟨s, _, _, h2⟩ | ⟨l, h1, h2, h3⟩
  · rcases hn with hn | ⟨m, hn⟩ <;> (rw [hn] at h2; cases h2)
  · rcases hn with hn | ⟨m, hn⟩ <;> (rw [hn] at h2; rcases h2 with h2 | h2 <;> cases h2)
  · exact ⟨l, h1, h2, h3⟩

/-- `postprocess` finds a `Literal` value for the name of one of the values -/
theorem postprocess_literal_mem {f : FieldSpec} {vals : List Scalar} (hopt : f.ty.optional = false)
    (hin : f.ty.inner = .literal vals) {s : Str} (hs : ∃ x ∈ vals, literalName x = some s) :
    ∃ w ∈ vals, postprocess f (.sc (.str s)) = .ok (.sc w) := by
  rw [postprocess_literal hopt hin]
  cases hfind : vals.reverse.find? (fun v => literalName v = some s) with
  | some w => exact ⟨w, List.mem_reverse.mp (List.mem_of_find?_eq_some hfind), rfl⟩
  | none =>
    obtain ⟨x, hx, hname⟩ := hs
    have := List.find?_eq_none.mp hfind x (List.mem_reverse.mpr hx)
    simp [hname] at this

/-- the action built from `ao` has the shape recorded for `ao` -/
theorem AO.act {ao : ArgOpts} {n : NArgs} {c : Conv} {ch : Option (List Str)} {b : Bool} {d : Val}
    (h : AO ao n c ch b d) {a : Act} {negs : List Str}
    (hkind : a.kind = if ao.isBool then .boolOpt negs else .store) (hn : a.nargs = ao.nargs)
    (hc : a.conv = ao.conv) (hch : a.choices = ao.choices) :
    a.kind = (if b then .boolOpt negs else .store) ∧ a.nargs = n ∧ a.conv = c ∧ a.choices = ch :=
  ⟨h.isBool ▸ hkind, hn.trans h.nargs, hc.trans h.conv, hch.trans h.choices⟩

/-- **the core step**: a value the engine stored for a field's action (`ValOk` + positions) goes
    through `postprocess`, and what comes out conforms to the field's ANNOTATION — or the value is
    the `None` a bare option stores for a non-Optional field declared with `= None` -/
theorem conforms_of_shape {fenv : FEnv} {f : FieldSpec} {ao : ArgOpts} (hs : ShapeOf f ao) {a : Act}
    {negs : List Str}
    (hkind : a.kind = if ao.isBool then .boolOpt negs else .store) (hn : a.nargs = ao.nargs)
    (hc : a.conv = ao.conv) (hch : a.choices = ao.choices)
    {raw : Val} (hv : ValOk fenv a raw) (hp : PosOk fenv a raw) :
    ∃ v, postprocess f raw = .ok v ∧ (Conforms f.ty v ∨ raw = defaultVal f.default) := by
  -- a scalar for a non-optional scalar annotation it conforms to
  have scalar : ∀ t s, f.ty.optional = false → f.ty.inner = .sc t → raw = .sc s → IConforms t s →
      ∃ v, postprocess f raw = .ok v ∧ (Conforms f.ty v ∨ raw = defaultVal f.default) := by
    intro t s hopt hin hr hcs
    subst hr
    exact ⟨_, postprocess_sc_id hopt hin hcs, Or.inl (Or.inr (hin ▸ hcs))⟩
  cases hs with
  | literal vals names hopt hin hm hao =>
    obtain ⟨hk, hn, _, hch⟩ := hao.act hkind hn hc hch
    rcases valOk_store_scalar hk (Or.inl hn) hv with ⟨_, h2⟩ | ⟨s, rfl, k, t, hap, hcho⟩
    · rw [hn] at h2; cases h2
    · obtain ⟨u, rfl, hu⟩ := hcho names hch
      obtain ⟨w, hw, hpost⟩ := postprocess_literal_mem hopt hin
        (mapM_mem _ vals names hm u (by simpa using hu))
      exact ⟨_, hpost, Or.inl (Or.inr (hin ▸ hw))⟩
  | tuple items c hin htc hao =>
    obtain ⟨hk, hn, hc, _⟩ := hao.act hkind hn hc hch
    obtain ⟨l, rfl, _, hlen⟩ := valOk_store_list hk (Or.inr ⟨_, hn⟩) hv
    rw [hn] at hlen
    obtain ⟨k0, hk0, hpos⟩ := hp l rfl
    refine ⟨_, postprocess_tuple hin _,
      Or.inl (Or.inr (hin ▸ tupleConv_conforms (fenv := fenv) htc hlen k0 ?_ ?_))⟩
    · intro bs hbs
      apply hk0 bs (by rw [hc, hbs])
      rw [hn, (tupleConv_counter (hbs ▸ htc)).1]
    · intro j s hjs
      obtain ⟨t, ht⟩ := hpos j s hjs
      unfold tc at ht
      rw [hc] at ht
      exact ⟨t, ht⟩
  | vtuple item hin hao =>
    obtain ⟨hk, hn, hc, _⟩ := hao.act hkind hn hc hch
    obtain ⟨l, rfl, hr, _⟩ := valOk_store_list hk (Or.inl hn) hv
    refine ⟨_, postprocess_vtuple hin _, Or.inl (Or.inr (hin ▸ ?_))⟩
    intro s hs
    obtain ⟨k, t, hap, _⟩ := hr s hs
    exact convOfItem_conforms (hc ▸ hap)
  | list item c hin hcc hao =>
    obtain ⟨hk, hn, hc, _⟩ := hao.act hkind hn hc hch
    obtain ⟨l, rfl, hr, _⟩ := valOk_store_list hk (Or.inl hn) hv
    refine ⟨_, postprocess_list hin l, Or.inl (Or.inr (hin ▸ ?_))⟩
    intro s hs
    obtain ⟨k, t, hap, _⟩ := hr s hs
    exact containerConv_conforms hcc (hc ▸ hap)
  | optScalar t hor hin hao =>
    obtain ⟨hk, hn, hc, _⟩ := hao.act hkind hn hc hch
    cases hopt : f.ty.optional with
    | true =>
      refine ⟨raw, postprocess_optional hopt (Or.inl ⟨t, hin⟩) raw, Or.inl ?_⟩
      rcases valOk_store_scalar hk (Or.inr hn) hv with ⟨rfl, _⟩ | ⟨s, rfl, k, tk, hap, _⟩
      · exact Or.inl ⟨hopt, rfl⟩
      · exact Or.inr (hin ▸ convOfItem_conforms (t := t) (hc ▸ hap))
    | false =>
      rcases valOk_store_scalar hk (Or.inr hn) hv with ⟨rfl, _⟩ | ⟨s, hr, k, tk, hap, _⟩
      · rcases hor with h1 | h1
        · rw [hopt] at h1; cases h1
        · exact ⟨_, postprocess_sc f _ nofun, Or.inr (by rw [h1]; rfl)⟩
      · exact scalar t s hopt hin hr (convOfItem_conforms (t := t) (hc ▸ hap))
  | «enum» cls ms hopt hin hao =>
    obtain ⟨hk, hn, _, hch⟩ := hao.act hkind hn hc hch
    rcases valOk_store_scalar hk (Or.inl hn) hv with ⟨_, h2⟩ | ⟨s, rfl, k, tk, _, hcho⟩
    · rw [hn] at h2; cases h2
    · obtain ⟨u, rfl, hu⟩ := hcho ms hch
      exact ⟨_, postprocess_enum_mem hopt hin hu, Or.inl (Or.inr (hin ▸ ⟨rfl, by simpa using hu⟩))⟩
  | bool hopt hin hao =>
    obtain ⟨hk, _⟩ := hao.act hkind hn hc hch
    simp only [ValOk, hk] at hv
    obtain ⟨b, hr⟩ := hv
    exact scalar _ _ hopt hin hr trivial
  | scalar t hopt hin hao =>
    obtain ⟨hk, hn, hc, _⟩ := hao.act hkind hn hc hch
    rcases valOk_store_scalar hk (Or.inl hn) hv with ⟨_, h2⟩ | ⟨s, hr, k, tk, hap, _⟩
    · rw [hn] at h2; cases h2
    · exact scalar t s hopt hin hr (convOfItem_conforms (t := t) (hc ▸ hap))

/-! #### the whole flat pipeline: table construction → engine → `postprocess` -/

/-- where the namespace value of a field comes from when no option occurrence set it: the declared
    default, the default as handed to argparse (an Enum member by name), or that default run
    through `type=` by argparse if it is a string -/
def DefaultRaw (fenv : FEnv) (f : FieldSpec) (raw : Val) : Prop :=
  raw = defaultVal f.default ∨ ∃ ao, argOptions f = some ao ∧
    (raw = ao.default ∨ ∃ s k w, ao.default = .sc (.str s) ∧ ao.conv.apply fenv k s = .ok w ∧
      raw = .sc w)

/-- what a field gets when its value comes from its declared default: the default as handed to
    argparse (an Enum member by name), possibly run through `type=` by argparse if it is a string,
    then post-processed -/
def FromDefault (fenv : FEnv) (f : FieldSpec) (v : Val) : Prop :=
  ∃ raw, postprocess f raw = .ok v ∧
    (raw = defaultVal f.default ∨ ∃ ao, argOptions f = some ao ∧
      (raw = ao.default ∨ ∃ s k w, ao.default = .sc (.str s) ∧ ao.conv.apply fenv k s = .ok w ∧
        raw = .sc w))

/-- field by field: the right name, and a value that conforms to the annotation or comes from the
    field's own default -/
def FieldsOk (fenv : FEnv) : List FieldSpec → List (Str × Val) → Prop
  | [], [] => True
  | f :: fs, p :: ps =>
    p.1 = f.name ∧ (Conforms f.ty p.2 ∨ FromDefault fenv f p.2) ∧ FieldsOk fenv fs ps
  | _, _ => False

/-- where the raw namespace value of a field can come from: its default (`DefaultRaw`), or a value
    the field's action stored -/
def RawCases (fenv : FEnv) (f : FieldSpec) (raw : Val) : Prop :=
  DefaultRaw fenv f raw ∨ ∃ ao a negs, argOptions f = some ao ∧
    a.kind = (if ao.isBool then .boolOpt negs else .store) ∧ a.nargs = ao.nargs ∧
    a.conv = ao.conv ∧ a.choices = ao.choices ∧ ValOk fenv a raw ∧ PosOk fenv a raw

/-- the namespace value of every field of a flat dataclass, after any accepted parse -/
theorem field_raw_cases (fenv : FEnv) (cfg : Cfg) (dest : Str) (fs : List FieldSpec) (tbl : List Act)
    (htbl : tableOf cfg dest fs = some tbl) (hnd : (fs.map (·.name)).Nodup)
    (ns : List (Str × Val)) (hns : NsOkP fenv tbl ns) (f : FieldSpec) (hf : f ∈ fs) :
    RawCases fenv f ((ns.lookup (dest ++ '.' :: f.name)).getD (defaultVal f.default)) := by
  cases hl : ns.lookup (dest ++ '.' :: f.name) with
  | none => exact Or.inl (Or.inl rfl)
  | some raw =>
    obtain ⟨a, ha, hd, hcase⟩ := hns _ (lookup_mem hl)
    rcases tableOf_mem cfg dest fs tbl htbl a ha with rfl | ⟨f', hf', hfa⟩
    · -- the dest of the help action has no dot
      have : '.' ∈ helpAct.dest := by rw [hd]; simp
      simp [helpAct] at this
    · obtain ⟨ao, negs, hao, hdest, hk, hn, hc, hch, -, hdef⟩ := fieldAct_inv hfa
      have hname : f'.name = f.name := by
        have := List.append_cancel_left (hdest.symm.trans hd)
        simpa using this
      cases nodup_map_inj hnd hf' hf hname
      rw [hdef] at hcase
      rcases hcase with h1 | h1 | ⟨s, k, w, h1, h2, h3⟩
      · exact Or.inl (Or.inr ⟨ao, hao, Or.inl (Option.some.inj h1).symm⟩)
      · exact Or.inr ⟨ao, a, negs, hao, hk, hn, hc, hch, h1⟩
      · exact Or.inl (Or.inr ⟨ao, hao, Or.inr ⟨s, k, w, Option.some.inj h1, hc ▸ h2, h3⟩⟩)

theorem postAll_fieldsOk (fenv : FEnv) (dest : Str) (ns : List (Str × Val)) :
    ∀ (fs : List FieldSpec) (fields : List (Str × Val)), postAll dest ns fs = .ok fields →
      (∀ f ∈ fs, RawCases fenv f ((ns.lookup (dest ++ '.' :: f.name)).getD (defaultVal f.default))) →
      FieldsOk fenv fs fields := by
  intro fs
  induction fs with
  | nil =>
    intro fields h _
    cases h
    trivial
  | cons f rest ih =>
    intro fields h hall
    simp only [postAll] at h
    cases hp : postprocess f ((ns.lookup (dest ++ '.' :: f.name)).getD (defaultVal f.default)) with
    | raise e => rw [hp] at h; cases h
    | ok v =>
      cases hr : postAll dest ns rest with
      | error e => simp only [hp, hr] at h; cases h
      | ok more =>
        simp only [hp, hr] at h
        cases h
        refine ⟨rfl, ?_, ih more hr (fun g hg => hall g (List.mem_cons_of_mem _ hg))⟩
        rcases hall f List.mem_cons_self with hd | ⟨ao, a, negs, hao, hk, hn, hc, hch, hv, hpos⟩
        · exact Or.inr ⟨_, hp, hd⟩
        · obtain ⟨v', hp', hconf⟩ := conforms_of_shape (argOptions_shape hao) hk hn hc hch
            hv hpos
          cases hp.symm.trans hp'
          exact hconf.imp_right (fun hr => ⟨_, hp, Or.inl hr⟩)

/-- `parseFlat` unfolded once: outside the fragment without a table; an engine failure is passed
    on; a namespace — every field value of which is accounted for (`RawCases`; the counters of a new
    parser are aligned) — goes through `postAll` -/
theorem parseFlat_cases (fenv : FEnv) (cfg : Cfg) (dest : Str) (fs : List FieldSpec)
    (argv : List Str) (hnd : (fs.map (·.name)).Nodup) :
    (∃ w, parseFlat fenv cfg dest fs argv = .unmodelled w) ∨
    (∃ c k, parseFlat fenv cfg dest fs argv = .exit c k) ∨
    (∃ tbl x, tableOf cfg dest fs = some tbl ∧
      runStrict fenv tbl (tbl.map (fun _ => 0)) argv = .raise x ∧
      parseFlat fenv cfg dest fs argv = .raise x) ∨
    ∃ ns, (∀ f ∈ fs, RawCases fenv f
        ((ns.lookup (dest ++ '.' :: f.name)).getD (defaultVal f.default))) ∧
      parseFlat fenv cfg dest fs argv =
        match postAll dest ns fs with
        | .ok r => .ok r
        | .error e => .raise e := by
  unfold parseFlat
  cases htbl : tableOf cfg dest fs with
  | none => exact Or.inl ⟨_, rfl⟩
  | some tbl =>
    dsimp only
    cases hr : runStrict fenv tbl (tbl.map (fun _ => 0)) argv with
    | ok ns ex cs' =>
      have hrun : run fenv tbl (tbl.map (fun _ => 0)) argv = .ok ns ex cs' := by
        rcases runStrict_cases fenv tbl (tbl.map (fun _ => 0)) argv with ⟨heq, _⟩ | ⟨heq, _⟩
        · rw [← heq]; exact hr
        · rw [heq] at hr; cases hr
      have hns := c04_sound_positions fenv tbl _ argv ns ex cs' (aligned_zeros tbl) hrun
      exact Or.inr (Or.inr (Or.inr
        ⟨ns, fun f hf => field_raw_cases fenv cfg dest fs tbl htbl hnd ns hns f hf, rfl⟩))
    | exit c k => exact Or.inr (Or.inl ⟨c, k, rfl⟩)
    | raise x => exact Or.inr (Or.inr (Or.inl ⟨tbl, x, rfl, hr, rfl⟩))
    | unmodelled w => exact Or.inl ⟨w, rfl⟩

/-- **C04 (well-typed results), the whole flat pipeline.** For every dataclass of the modelled
    annotation grammar with distinct field names, every naming configuration and EVERY command
    line: if `parse_args` returns an instance, then field by field the value either conforms to the
    field's ANNOTATION — `Optional` admits `None`; `List[T]` / `Tuple[T, ...]` item-wise;
    `Tuple[t1, …, tn]` with exactly `n` items, item `j` conforming to `tj` (the alignment of the
    `parse_tuple` counter is proved, not assumed); `Literal` one of the values; `Enum` a member;
    `Union` one of the members — or it is the field's own declared default (possibly run through
    `type=` by argparse). No raw token, no truncated or padded tuple, no `None` for a non-Optional
    field that was given a value. -/
theorem c04_conforms_flat (fenv : FEnv) (cfg : Cfg) (dest : Str) (fs : List FieldSpec)
    (argv : List Str) (fields : List (Str × Val)) (hnd : (fs.map (·.name)).Nodup)
    (h : parseFlat fenv cfg dest fs argv = .ok fields) : FieldsOk fenv fs fields := by
  rcases parseFlat_cases fenv cfg dest fs argv hnd with
    ⟨w, h0⟩ | ⟨c, k, h0⟩ | ⟨tbl, x, _, _, h0⟩ | ⟨ns, hraw, h0⟩
  · rw [h] at h0; cases h0
  · rw [h] at h0; cases h0
  · rw [h] at h0; cases h0
  · rw [h] at h0
    cases hp : postAll dest ns fs with
    | error e => rw [hp] at h0; cases h0
    | ok r =>
      rw [hp] at h0
      cases h0
      exact postAll_fieldsOk fenv dest ns fs fields hp hraw

/-! #### never a traceback, for the WHOLE pipeline; with well-typed declared defaults, EVERY field
    conforms to its annotation -/

/-- the declared defaults are well-typed (`= None` is always allowed, issue #132) -/
def DefaultsConform (fs : List FieldSpec) : Prop :=
  ∀ f ∈ fs, ∀ v, f.default = .value v → Conforms f.ty v ∨ v = .sc .none

/-- `postprocess` maps a conforming raw value to a conforming field value -/
theorem postprocess_conforms {f : FieldSpec} {d : Val} (hc : Conforms f.ty d) :
    ∃ v, postprocess f d = .ok v ∧ Conforms f.ty v := by
  rcases hc with ⟨hopt, rfl⟩ | hn
  · exact ⟨_, postprocess_sc f _ nofun, Or.inl ⟨hopt, rfl⟩⟩
  · cases hin : f.ty.inner with
    | sc t =>
      rw [hin] at hn
      cases d with
      | sc s =>
        cases hopt : f.ty.optional with
        | false => exact ⟨_, postprocess_sc_id hopt hin hn, Or.inr (hin ▸ hn)⟩
        | true => exact ⟨_, postprocess_optional hopt (Or.inl ⟨t, hin⟩) _, Or.inr (hin ▸ hn)⟩
      | list l => exact hn.elim
      | tuple l => exact hn.elim
    | literal vals =>
      rw [hin] at hn
      cases d with
      | sc s =>
        cases hopt : f.ty.optional with
        | true => exact ⟨_, postprocess_optional hopt (Or.inr ⟨vals, hin⟩) _, Or.inr (hin ▸ hn)⟩
        | false =>
          -- only a string is looked up (by name), and then finds a value of the Literal
          cases s with
          | str u =>
            obtain ⟨w, hw, hp⟩ := postprocess_literal_mem hopt hin ⟨.str u, hn, rfl⟩
            exact ⟨_, hp, Or.inr (hin ▸ hw)⟩
          | _ => exact ⟨_, by unfold postprocess; rw [hopt, hin], Or.inr (hin ▸ hn)⟩
      | list l => exact hn.elim
      | tuple l => exact hn.elim
    | list item =>
      rw [hin] at hn
      cases d with
      | list l => exact ⟨_, postprocess_list hin l, Or.inr (hin ▸ hn)⟩
      | sc s => exact hn.elim
      | tuple l => exact hn.elim
    | tuple items =>
      rw [hin] at hn
      cases d with
      | tuple l => exact ⟨_, postprocess_tuple hin _, Or.inr (hin ▸ hn)⟩
      | sc s => exact hn.elim
      | list l => exact hn.elim
    | vtuple item =>
      rw [hin] at hn
      cases d with
      | tuple l => exact ⟨_, postprocess_vtuple hin _, Or.inr (hin ▸ hn)⟩
      | sc s => exact hn.elim
      | list l => exact hn.elim

/-- a raw namespace value that `postprocess` turns into a conforming field value: it conforms
    already, is `None`, or is the NAME of a member of the field's Enum -/
def PreConforms (f : FieldSpec) (raw : Val) : Prop :=
  Conforms f.ty raw ∨ raw = .sc .none ∨
    ∃ cls ms n, f.ty.optional = false ∧ f.ty.inner = .sc (.base (.enum cls ms)) ∧
      ms.contains n = true ∧ raw = .sc (.str n)

theorem preConforms_post {f : FieldSpec} {raw : Val} (h : PreConforms f raw) :
    ∃ v, postprocess f raw = .ok v ∧ (Conforms f.ty v ∨ v = .sc .none) := by
  rcases h with hc | rfl | ⟨cls, ms, n, hopt, hin, hn, rfl⟩
  · obtain ⟨v, hp, hv⟩ := postprocess_conforms hc
    exact ⟨v, hp, Or.inl hv⟩
  · exact ⟨_, postprocess_sc f _ nofun, Or.inr rfl⟩
  · exact ⟨_, postprocess_enum_mem hopt hin hn, Or.inl (Or.inr (hin ▸ ⟨rfl, by simpa using hn⟩))⟩

theorem defaultVal_str {d : DefaultV} {s : Str} (h : defaultVal d = .sc (.str s)) :
    d = .value (.sc (.str s)) := by
  cases d with
  | missing => cases h
  | value v => exact congrArg _ h

/-- with a well-typed declared default, whatever a field receives from its default — as declared,
    as handed to argparse, or run through `type=` — is turned into a conforming value (or `None`) -/
theorem defaultRaw_pre {fenv : FEnv} {f : FieldSpec} {raw : Val}
    (hdc : ∀ d, f.default = .value d → Conforms f.ty d ∨ d = .sc .none)
    (h : DefaultRaw fenv f raw) : PreConforms f raw := by
  have hdecl : PreConforms f (defaultVal f.default) := by
    cases hd : f.default with
    | missing => exact Or.inr (Or.inl rfl)
    | value d => exact (hdc d hd).imp_right Or.inl
  rcases h with rfl | ⟨ao, hao, hcase⟩
  · exact hdecl
  · let G : Prop := PreConforms f ao.default ∧ ∀ s k w, ao.default = .sc (.str s) →
      ao.conv.apply fenv k s = .ok w → PreConforms f (.sc w)
    suffices key : G by
      rcases hcase with rfl | ⟨s, k, w, h1, h2, rfl⟩
      · exact key.1
      · exact key.2 s k w h1 h2
    -- a container annotation: a string default does not conform to it
    have container : ao.default = defaultVal f.default →
        (∀ l, ¬ NConforms f.ty.inner (.sc l)) → G := by
      refine fun he hno => ⟨he ▸ hdecl, fun s k w hs _ => ?_⟩
      rcases hdc _ (defaultVal_str (he.symm.trans hs)) with (⟨_, hc⟩ | hc) | hc
      · cases hc
      · exact (hno _ hc).elim
      · cases hc
    -- a scalar annotation `t` converted by its own `type=`
    have scalar : ∀ t, f.ty.inner = .sc t → ao.conv = convOfItem t →
        ao.default = defaultVal f.default → G :=
      fun t hin hc he => ⟨he ▸ hdecl, fun s k w _ hap =>
        Or.inl (Or.inr (hin ▸ convOfItem_conforms (t := t) (hc ▸ hap)))⟩
    -- `type=str` returns the default as it is
    have kept : PreConforms f ao.default → ao.conv = .base .str → G := by
      refine fun h0 hc => ⟨h0, fun s k w hs hap => ?_⟩
      rw [hc] at hap
      cases hap
      exact hs ▸ h0
    cases argOptions_shape hao with
    | literal vals names hopt hin hm hao' => exact kept (hao'.default ▸ hdecl) hao'.conv
    | tuple items c hin _ hao' =>
      exact container hao'.default (fun l hl => by rw [hin] at hl; exact hl)
    | vtuple item hin hao' =>
      exact container hao'.default (fun l hl => by rw [hin] at hl; exact hl)
    | list item c hin _ hao' =>
      exact container hao'.default (fun l hl => by rw [hin] at hl; exact hl)
    | optScalar t _ hin hao' => exact scalar t hin hao'.conv hao'.default
    | bool _ hin hao' => exact scalar _ hin hao'.conv hao'.default
    | scalar t _ hin hao' => exact scalar t hin hao'.conv hao'.default
    | «enum» cls ms hopt hin hao' =>
      -- a member default is handed to argparse by name: the declared member conforms, so the
      -- name is a member name
      refine kept ?_ hao'.conv
      rw [hao'.default]
      cases hd : f.default with
      | missing => exact Or.inr (Or.inl rfl)
      | value d =>
        rcases hdc d hd with hc | rfl
        · rcases hc with ⟨ho, _⟩ | hc
          · rw [hopt] at ho; cases ho
          · rw [hin] at hc
            cases d with
            | list l => exact hc.elim
            | tuple l => exact hc.elim
            | sc s =>
              cases s with
              | «enum» c n =>
                obtain ⟨rfl, hm⟩ := hc
                exact Or.inr (Or.inr ⟨c, ms, n, hopt, hin, by simpa using hm, rfl⟩)
              | _ => exact hc.elim
        · exact Or.inr (Or.inl rfl)

theorem postAll_noraise (fenv : FEnv) (dest : Str) (ns : List (Str × Val)) :
    ∀ (fs : List FieldSpec) (x : Str),
      (∀ f ∈ fs, RawCases fenv f ((ns.lookup (dest ++ '.' :: f.name)).getD (defaultVal f.default))) →
      DefaultsConform fs → postAll dest ns fs ≠ .error x := by
  intro fs
  induction fs with
  | nil => intro x _ _ h; cases h
  | cons f rest ih =>
    intro x hall hdc h
    -- the field's own value goes through `postprocess` …
    obtain ⟨v, hp⟩ : ∃ v, postprocess f ((ns.lookup (dest ++ '.' :: f.name)).getD
        (defaultVal f.default)) = .ok v := by
      rcases hall f List.mem_cons_self with hd | ⟨ao, a, negs, hao, hk, hn, hc, hch, hv, hpos⟩
      · obtain ⟨v, hp, _⟩ := preConforms_post (defaultRaw_pre (hdc f List.mem_cons_self) hd)
        exact ⟨v, hp⟩
      · obtain ⟨v, hp, _⟩ := conforms_of_shape (argOptions_shape hao) hk hn hc hch
          hv hpos
        exact ⟨v, hp⟩
    -- … and so do the others
    simp only [postAll, hp] at h
    cases hr : postAll dest ns rest with
    | error e =>
      exact ih e (fun g hg => hall g (List.mem_cons_of_mem _ hg))
        (fun g hg => hdc g (List.mem_cons_of_mem _ hg)) hr
    | ok more => rw [hr] at h; cases h

/-- **C04 (never a traceback), the WHOLE flat pipeline including `postprocess`.** For every
    dataclass of the modelled grammar with distinct field names whose declared defaults are
    well-typed, every naming configuration and EVERY command line: `parse_args` returns an instance
    or exits — no exception escapes, neither from the engine nor from the post-processing of
    Enum / Literal fields (`self.type[raw]`, `choice_dict[raw]`). -/
theorem c04_no_traceback_pipeline (fenv : FEnv) (cfg : Cfg) (dest : Str) (fs : List FieldSpec)
    (argv : List Str) (hnd : (fs.map (·.name)).Nodup) (hdc : DefaultsConform fs) (x : Str) :
    parseFlat fenv cfg dest fs argv ≠ .raise x := by
  intro h
  rcases parseFlat_cases fenv cfg dest fs argv hnd with
    ⟨w, h0⟩ | ⟨c, k, h0⟩ | ⟨tbl, x', htbl, hr, h0⟩ | ⟨ns, hraw, h0⟩
  · rw [h] at h0; cases h0
  · rw [h] at h0; cases h0
  · exact c04_no_traceback_flat fenv cfg dest fs tbl htbl _ argv x' hr
  · rw [h] at h0
    cases hp : postAll dest ns fs with
    | ok r => rw [hp] at h0; cases h0
    | error e => exact postAll_noraise fenv dest ns fs e hraw hdc hp

/-- what a field receives from its (well-typed) declared default conforms to the annotation, or is
    the `None` of a field declared `= None` / without default -/
theorem fromDefault_conforms (fenv : FEnv) (f : FieldSpec) (v : Val)
    (hdc : ∀ d, f.default = .value d → Conforms f.ty d ∨ d = .sc .none)
    (h : FromDefault fenv f v) : Conforms f.ty v ∨ v = .sc .none := by
  obtain ⟨raw, hpost, hraw⟩ := h
  obtain ⟨v', hp, hv⟩ := preConforms_post (defaultRaw_pre hdc hraw)
  cases hpost.symm.trans hp
  exact hv

/-- field by field: the right name and a value that conforms to the annotation (or `None`) -/
def FieldsConform : List FieldSpec → List (Str × Val) → Prop
  | [], [] => True
  | f :: fs, p :: ps => p.1 = f.name ∧ (Conforms f.ty p.2 ∨ p.2 = .sc .none) ∧ FieldsConform fs ps
  | _, _ => False

theorem fieldsOk_conform (fenv : FEnv) (fs : List FieldSpec) : ∀ (fields : List (Str × Val)),
    DefaultsConform fs → FieldsOk fenv fs fields → FieldsConform fs fields := by
  induction fs with
  | nil =>
    intro fields _ h
    cases fields with
    | nil => trivial
    | cons _ _ => exact h.elim
  | cons f fs ih =>
    intro fields hdc h
    cases fields with
    | nil => exact h.elim
    | cons p ps =>
      obtain ⟨hn, hv, hrest⟩ := h
      refine ⟨hn, ?_, ih ps (fun g hg => hdc g (List.mem_cons_of_mem _ hg)) hrest⟩
      exact hv.elim Or.inl (fromDefault_conforms fenv f p.2 (hdc f List.mem_cons_self))

/-- **C04 (every field conforms), the whole flat pipeline.** If moreover the declared defaults are
    well-typed: whenever `parse_args` returns an instance, EVERY field value conforms to its
    annotation — or is `None` (a field declared `= None`, issue #132; a field without default is
    required and its absence is rejected: `c04_missing_required_any`). -/
theorem c04_conforms_flat_strict (fenv : FEnv) (cfg : Cfg) (dest : Str) (fs : List FieldSpec)
    (argv : List Str) (fields : List (Str × Val)) (hnd : (fs.map (·.name)).Nodup)
    (hdc : DefaultsConform fs) (h : parseFlat fenv cfg dest fs argv = .ok fields) :
    FieldsConform fs fields :=
  fieldsOk_conform fenv fs fields hdc (c04_conforms_flat fenv cfg dest fs argv fields hnd h)

/-! ### 10. witnesses, and non-vacuity: the theorems instantiated on concrete command lines -/

/-- the unrestricted statement (no hypothesis on the declared defaults) … -/
def NoTracebackPipeline : Prop :=
  ∀ (fenv : FEnv) (cfg : Cfg) (dest : Str) (fs : List FieldSpec) (argv : List Str) (x : Str),
    (fs.map (·.name)).Nodup → parseFlat fenv cfg dest fs argv ≠ .raise x

def colorField (d : DefaultV) : FieldSpec :=
  { name := "color".toList,
    ty := { inner := .sc (.base (.enum "Color".toList ["RED".toList, "GREEN".toList])), optional := false },
    default := d }
attribute [lit] colorField

theorem parseFlat_color_purple :
    parseFlat [] { dash := .underscore, gen := .flat, nest := .default } "c".toList
      [colorField (.value (.sc (.str "PURPLE".toList)))] [] = .raise "KeyError".toList := by
  rfl_lit

/-- … is FALSE for the code as it is: `color: Color = "PURPLE"` (a string default that is no member
    name) makes the EMPTY command line raise `KeyError` from `postprocess` (`self.type[raw]`,
    field_wrapper.py) instead of exiting with status 2 — finding C04-str-default-keyerror. The
    exclusion `DefaultsConform` of `c04_no_traceback_pipeline` is exactly what rules this out. -/
theorem c04_default_keyerror_witness : ¬ NoTracebackPipeline := by
  intro h
  exact h [] { dash := .underscore, gen := .flat, nest := .default } "c".toList
    [colorField (.value (.sc (.str "PURPLE".toList)))] [] "KeyError".toList (List.pairwise_singleton _ _)
    parseFlat_color_purple

/-- non-vacuity of `DefaultsConform` / `c04_no_traceback_pipeline` / `c04_conforms_flat`: the same
    field with the member default `Color.RED` -/
example : DefaultsConform [colorField (.value (.sc (.enum "Color".toList "RED".toList)))] := by
  intro f hf v hv
  obtain rfl := List.mem_singleton.mp hf
  cases hv
  exact Or.inl (Or.inr ⟨rfl, by decide_lit⟩)

/-- a table as simple-parsing builds it for `flag: bool = False; t: Tuple[int, str] = None` -/
def flagTbl : List Act :=
  [ helpAct,
    { opts := ["--flag".toList, "--noflag".toList], dest := "c.flag".toList,
      kind := .boolOpt ["--noflag".toList], nargs := .opt, conv := .base .bool, choices := none,
      required := false, default := some (.sc (.bool false)) },
    { opts := ["--t".toList], dest := "c.t".toList, kind := .store, nargs := .num 2,
      conv := .tupleCounter [.int, .str], choices := none, required := false,
      default := some (.sc .none) } ]
attribute [lit] flagTbl

theorem flagTbl_noRaise : NoRaiseTbl flagTbl :=
  ⟨by
    intro a ha cs hc
    rcases List.mem_cons.mp ha with rfl | ha
    · cases hc
    · rcases List.mem_cons.mp ha with rfl | ha
      · cases hc
      · obtain rfl := List.mem_singleton.mp ha
        cases hc
        nofun,
   by
    intro a ha negs hk
    rcases List.mem_cons.mp ha with rfl | ha
    · cases hk
    · rcases List.mem_cons.mp ha with rfl | ha
      · exact ⟨rfl, rfl⟩
      · obtain rfl := List.mem_singleton.mp ha
        cases hk⟩

theorem flagTbl_aligned : Aligned flagTbl [0, 0, 0] := aligned_zeros flagTbl

/-- a help request exits 0 and has its token; a non-ASCII digit is a `type=` conversion outside the
    modelled fragment -/
example : runStrict [] demoTbl [0, 0, 0] ["--he".toList] = .exit 0 .help := by decide_lit
theorem run_nonascii_digit : runStrict [] demoTbl [0, 0, 0] ["--n".toList, "١".toList] =
    .unmodelled "type conversion outside the modelled fragment" := by rfl_lit
example : runStrict [] demoTbl [0, 0, 0] ["--n".toList, "١".toList] =
    .unmodelled "type conversion outside the modelled fragment" := run_nonascii_digit
example : ConversionWhy "type conversion outside the modelled fragment" :=
  c04_unmodelled_reasons [] demoTbl [0, 0, 0] ["--n".toList, "١".toList] _ run_nonascii_digit

theorem noHelp_of_lex (tbl : List Act) (argv : List Str) (toks : List Tok)
    (hlex : lexAll tbl argv = .ok toks)
    (h : ∀ t ∈ toks, ∀ i o ex, t = Tok.O (some i) o ex → ∀ act, tbl[i]? = some act → act.kind ≠ .help) :
    NoHelpToken tbl argv := by
  intro toks' i o ex act hlex' hm hact
  rw [hlex] at hlex'
  cases hlex'
  exact h _ hm i o ex rfl act hact

/-- `--l a b` (required `--n` missing) IS exit status 2 — `c04_missing_required_any` composed with
    `c04_rejection_is_status2` -/
example : ∃ k, runStrict [] demoTbl [0, 0, 0] ["--l".toList, "a".toList, "b".toList] = .exit 2 k := by
  have hnh : NoHelpToken demoTbl ["--l".toList, "a".toList, "b".toList] :=
    noHelp_of_lex demoTbl _ _ lex_l_a_b (by
      -- the only option token belongs to action 2, `--l`
      intro t ht i o ex he act hact
      rcases List.mem_cons.mp ht with rfl | ht
      · cases he
        cases hact
        nofun
      · rcases List.mem_cons.mp ht with rfl | ht
        · cases he
        · obtain rfl := List.mem_singleton.mp ht
          cases he)
  rcases c04_rejection_is_status2 [] demoTbl demoTbl_noRaise [0, 0, 0] _ hnh demo_missing_rejected
    with h | ⟨w, h, _⟩
  · exact h
  · rw [run_l_a_b] at h; cases h

/-- `--t 1 a --noflag=true`: a value on the negative flag, behind a valid tuple -/
example : ∀ ns ex cs', runStrict [] flagTbl [0, 0, 0]
    (["--t".toList, "1".toList, "a".toList] ++ ("--noflag".toList ++ '=' :: "true".toList) :: []) ≠
      .ok ns ex cs' :=
  c04_negflag_eq_argv [] flagTbl flagTbl_noRaise [0, 0, 0] _ [] "--noflag".toList "true".toList 1
    "-noflag".toList (by decide_lit) (by decide_lit) (by decide_lit) (by decide_lit) (by decide_lit) _
    ["--noflag".toList] rfl rfl (by decide_lit)

/-- `--noflag false --t 1 a`: the other spelling, in front of a valid tuple -/
example : ∀ ns ex cs', runStrict [] flagTbl [0, 0, 0]
    ["--noflag".toList, "false".toList, "--t".toList, "1".toList, "a".toList] ≠ .ok ns ex cs' :=
  c04_negflag_space_argv [] flagTbl flagTbl_noRaise [0, 0, 0] _ [] "--noflag".toList 1 "false".toList []
    ["--t".toList, "1".toList, "a".toList]
    ⟨rfl, nofun, by decide_lit, ⟨"-noflag".toList, by decide_lit⟩, by decide_lit,
      by unfold NoDash; decide_lit⟩
    _ ["--noflag".toList] rfl rfl (by decide_lit)

/-- `--flag --t 1` (one value for `Tuple[int, str]`), `--t 1 a b --flag` (three), `--t=1` -/
example : ∀ ns ex cs', runStrict [] flagTbl [0, 0, 0]
    ["--flag".toList, "--t".toList, "1".toList] ≠ .ok ns ex cs' :=
  c04_arity_short_argv [] flagTbl [0, 0, 0] _ ["--flag".toList] "--t".toList 2 ["1".toList] []
    ⟨rfl, by decide_lit, by decide_lit, ⟨"-t".toList, by decide_lit⟩, by decide_lit,
      by unfold NoDash; decide_lit⟩
    nofun _ 2 rfl rfl (by decide_lit)

example : ∀ ns ex cs', runStrict [] flagTbl [0, 0, 0]
    ["--t".toList, "1".toList, "a".toList, "b".toList, "--flag".toList] ≠ .ok ns ex cs' :=
  c04_arity_long_argv [] flagTbl [0, 0, 0] _ [] "--t".toList 2 ["1".toList, "a".toList, "b".toList]
    ["--flag".toList]
    ⟨rfl, nofun, by decide_lit, ⟨"-t".toList, by decide_lit⟩, by decide_lit,
      by unfold NoDash; decide_lit⟩
    _ 2 rfl rfl (by decide_lit)

example : ∀ ns ex cs', runStrict [] flagTbl [0, 0, 0] ["--t=1".toList] ≠ .ok ns ex cs' :=
  c04_arity_eq_rejected [] flagTbl [0, 0, 0] _ [.O (some 2) "--t".toList (some "1".toList)]
    (by rfl_lit) "--t=1".toList 2 "--t".toList "1".toList _ 2 List.mem_cons_self rfl rfl (by decide)

/-- `--l a b --n abc`: an ill-typed token for `int`, behind a valid option -/
example : ∀ ns ex cs', runStrict [] demoTbl [0, 0, 0]
    ["--l".toList, "a".toList, "b".toList, "--n".toList, "abc".toList] ≠ .ok ns ex cs' :=
  c04_bad_value_argv [] demoTbl [0, 0, 0] _ ["--l".toList, "a".toList, "b".toList] "--n".toList 1
    ["abc".toList] []
    ⟨rfl, by decide_lit, by decide_lit, ⟨"-n".toList, by decide_lit⟩, by decide_lit,
      by unfold NoDash; decide_lit⟩
    _ rfl 0 "abc".toList rfl rfl (never_int [] _ 1 _ rfl (by decide_lit))

example : ∀ ns ex cs', runStrict [] demoTbl [0, 0, 0] ["--n=1.5".toList] ≠ .ok ns ex cs' :=
  c04_bad_value_eq_rejected [] demoTbl [0, 0, 0] _ [.O (some 1) "--n".toList (some "1.5".toList)]
    (by rfl_lit) "--n=1.5".toList 1 "--n".toList "1.5".toList _ List.mem_cons_self rfl
    (never_int [] _ 1 _ rfl (by decide_lit))

/-- `--t 1 a --t b 2`: the SECOND occurrence has a string where `Tuple[int, str]` wants its int —
    `b` would be fine at position 1, and the closure counter stands at 2 when it is converted; the
    alignment invariant is what selects `int` for it -/
example : ∀ ns ex cs', runStrict [] flagTbl [0, 0, 0]
    ["--t".toList, "1".toList, "a".toList, "--t".toList, "b".toList, "2".toList] ≠ .ok ns ex cs' :=
  c04_hetero_bad_argv [] flagTbl [0, 0, 0] flagTbl_aligned _ ["--t".toList, "1".toList, "a".toList]
    "--t".toList 2 ["b".toList, "2".toList] []
    ⟨rfl, by decide_lit, by decide_lit, ⟨"-t".toList, by decide_lit⟩, by decide_lit,
      by unfold NoDash; decide_lit⟩
    _ [.int, .str] rfl rfl rfl 0 "b".toList .int rfl rfl
    (by intro v h; have : BConv.apply [] .int "b".toList = .typeErr := by decide_lit
        rw [this] at h; cases h)

/-- `--n 1 --zzz`: an unknown long option, the lexer's verdict derived from the spelling -/
example : ∀ ns ex cs', runStrict [] demoTbl [0, 0, 0]
    (["--n".toList, "1".toList] ++ "--zzz".toList :: []) ≠ .ok ns ex cs' := by
  -- the literals are turned into characters first: `"--zzz".toList` has to be read as `'-' :: '-' :: r`
  simp only [String.toList_lit rfl]
  exact c04_unknown_long_rejected [] demoTbl [0, 0, 0] _ [] _ (by decide +kernel) (by decide +kernel)
    (by decide +kernel) (by decide +kernel) (by decide_lit)

/-- the stored-value invariant refuses a 3-item list for `Tuple[int, str]` (nargs = 2) … -/
example : ¬ ValOk [] (tupTbl[0]'(by decide)) (.list [.str "a".toList, .str "b".toList, .str "c".toList]) := by
  rintro (⟨h, _⟩ | ⟨s, h, _⟩ | ⟨l, h, _, hl⟩)
  · cases h
  · cases h
  · cases h
    cases hl

/-- … and `None` for a `nargs=None` action -/
example : ¬ ValOk [] (demoTbl[1]'(by decide)) (.sc .none) := by
  rintro (⟨_, h⟩ | ⟨s, h, ⟨k, t, hap, _⟩, _⟩ | ⟨l, h, _⟩)
  · cases h
  · cases h
    obtain ⟨i, hi⟩ := conv_int_range (fenv := []) hap
    cases hi
  · cases h

/-- `c04_conforms_flat` on a concrete dataclass `t: Tuple[int, str] = (0, "z"); color: Color = RED`:
    the accepted command line `--t 5 x --color GREEN` -/
def demoFields : List FieldSpec :=
  [ { name := "t".toList, ty := { inner := .tuple [.base .int, .base .str], optional := false },
      default := .value (.tuple [.int 0, .str "z".toList]) },
    colorField (.value (.sc (.enum "Color".toList "RED".toList))) ]
attribute [lit] demoFields

theorem parseFlat_demo :
    parseFlat [] { dash := .underscore, gen := .flat, nest := .default } "c".toList demoFields
      ["-t".toList, "5".toList, "x".toList, "--color".toList, "GREEN".toList] =
    .ok [("t".toList, .tuple [.int 5, .str "x".toList]),
         ("color".toList, .sc (.enum "Color".toList "GREEN".toList))] := by rfl_lit

theorem demoFields_nodup : (demoFields.map (·.name)).Nodup := by decide_lit

example : parseFlat [] { dash := .underscore, gen := .flat, nest := .default } "c".toList demoFields
    ["-t".toList, "5".toList, "x".toList, "--color".toList, "GREEN".toList] =
    .ok [("t".toList, .tuple [.int 5, .str "x".toList]),
         ("color".toList, .sc (.enum "Color".toList "GREEN".toList))] := parseFlat_demo

example : FieldsOk [] demoFields
    [("t".toList, .tuple [.int 5, .str "x".toList]),
     ("color".toList, .sc (.enum "Color".toList "GREEN".toList))] :=
  c04_conforms_flat [] { dash := .underscore, gen := .flat, nest := .default } "c".toList demoFields
    ["-t".toList, "5".toList, "x".toList, "--color".toList, "GREEN".toList] _
    demoFields_nodup parseFlat_demo

/-- non-vacuity of `c04_conforms_flat_strict`: `demoFields` has well-typed defaults -/
theorem demoFields_defaultsConform : DefaultsConform demoFields := by
  intro f hf v hv
  rcases List.mem_cons.mp hf with rfl | hf
  · cases hv
    exact Or.inl (Or.inr ⟨trivial, trivial, trivial⟩)
  · obtain rfl := List.mem_singleton.mp hf
    cases hv
    exact Or.inl (Or.inr ⟨rfl, by decide_lit⟩)

example : FieldsConform demoFields
    [("t".toList, .tuple [.int 5, .str "x".toList]),
     ("color".toList, .sc (.enum "Color".toList "GREEN".toList))] :=
  c04_conforms_flat_strict [] { dash := .underscore, gen := .flat, nest := .default } "c".toList
    demoFields ["-t".toList, "5".toList, "x".toList, "--color".toList, "GREEN".toList] _
    demoFields_nodup demoFields_defaultsConform parseFlat_demo

/-- non-vacuity of the theorems on rendered command lines (`LexOk` / `ConsumeOk`
    instantiated): `--l a b` without the required `--n`; `--n abc` -/
example : ∀ ns ex cs', runStrict [] demoTbl [0, 0, 0]
    (render [{ idx := 2, opt := "--l".toList, toks := ["a".toList, "b".toList] }]) ≠ .ok ns ex cs' :=
  c04_missing_required [] demoTbl [0, 0, 0] _
    (by intro s hs; obtain rfl := List.mem_singleton.mp hs
        exact ⟨by decide_lit, ⟨"-l".toList, by decide_lit⟩, by decide_lit, by unfold NoDash; decide_lit⟩)
    (by intro s hs; obtain rfl := List.mem_singleton.mp hs
        exact ⟨⟨_, rfl, nofun, rfl⟩⟩)
    (demoTbl[1]'(by decide_lit)) 1 (by decide_lit) rfl (by decide_lit)

example : ∀ ns ex cs', runStrict [] demoTbl [0, 0, 0]
    (render [{ idx := 1, opt := "--n".toList, toks := ["abc".toList] }]) ≠ .ok ns ex cs' :=
  c04_bad_token_rejected [] demoTbl [0, 0, 0] _
    (by intro s hs; obtain rfl := List.mem_singleton.mp hs
        exact ⟨by decide_lit, ⟨"-n".toList, by decide_lit⟩, by decide_lit, by unfold NoDash; decide_lit⟩)
    (by intro s hs; obtain rfl := List.mem_singleton.mp hs
        exact ⟨⟨_, rfl, nofun, rfl⟩⟩)
    { idx := 1, opt := "--n".toList, toks := ["abc".toList] } List.mem_cons_self
    (demoTbl[1]'(by decide_lit)) rfl "abc".toList List.mem_cons_self
    (never_int [] _ 1 "abc".toList rfl (by decide_lit))
end SpVerif.C04
