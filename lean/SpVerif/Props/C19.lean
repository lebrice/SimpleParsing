/-
  C19 — a field's help text comes from its own documentation, by fixed precedence.

  Theorems about `SpVerif.Model.DocScan` (mirrors simple_parsing/docstring.py and
  `FieldWrapper.help`).  The central statement is `c19_extract`: on every source made of header
  lines followed by well-formed field blocks (the layout grammar of DESIGN.md §5 C19, rendered by
  `renderBlocks`), the line scanner returns for each field exactly the documentation of that
  field's own block — any number of blocks, any number of comment / blank / docstring lines.
-/
import SpVerif.Lemmas.DocScan
import SpVerif.Lemmas.Lit
namespace SpVerif.C19
open SpVerif SpVerif.DocScan

/-! ### walking over the lines of other blocks -/

theorem scanFrom_skip {n : Str} {A : List Str} (R rb : List Str)
    (h : ∀ l ∈ A, (containsFieldDef l && lineDefines l n) = false) :
    scanFrom n rb (A ++ R) = scanFrom n (A.reverse ++ rb) R := by
  induction A generalizing rb with
  | nil => rfl
  | cons a as ih =>
    have ha := h a List.mem_cons_self
    rw [List.cons_append, scanFrom, ha]
    simp only [Bool.false_eq_true, ↓reduceIte]
    rw [ih _ (List.forall_mem_cons.mp h).2]
    simp

theorem scanLines_skip {n h0 : Str} {A : List Str} (R : List Str) (h0d : containsFieldDef h0 = false)
    (h : ∀ l ∈ A, (containsFieldDef l && lineDefines l n) = false) :
    scanLines (h0 :: (A ++ R)) n = scanFrom n A.reverse R := by
  simp only [scanLines, h0d, Bool.false_and, Bool.false_eq_true, ↓reduceIte]
  rw [scanFrom_skip _ _ h, List.append_nil]

theorem header_split {hdr : List Str} (h : headerOk hdr = true) :
    ∃ h0 hs, hdr = h0 :: hs ∧
      ∀ l ∈ h0 :: hs, containsFieldDef l = false ∧ (isHeaderLine l = true ∨ '#' ∉ l) := by
  cases hdr with
  | nil => simp [headerOk] at h
  | cons h0 hs =>
    refine ⟨h0, hs, rfl, fun l hl => ?_⟩
    simp only [headerOk, Bool.and_eq_true, List.all_eq_true] at h
    have hl := h.2 l hl
    simp only [Bool.not_eq_eq_eq_not, Bool.not_true, Bool.or_eq_true, contains_false_iff] at hl
    exact hl

theorem renderBlocks_append (a b : List Block) :
    renderBlocks (a ++ b) = renderBlocks a ++ renderBlocks b := by
  induction a with
  | nil => rfl
  | cons x xs ih => simp [renderBlocks, ih, List.append_assoc]

/-- no line of a well-formed block defines a field with another name — **exact identifier
    comparison**: `a` versus `ab`, `val` versus `value` are different names. -/
theorem block_skip {b : Block} (hb : WF b) {n : Str} (hn : b.name ≠ n) :
    ∀ l ∈ renderBlock b, (containsFieldDef l && lineDefines l n) = false := by
  intro l hl
  rw [renderBlock_eq, List.mem_append, List.mem_cons] at hl
  rcases hl with e | e | e
  · rw [cfd_of_nonstop (headLines_nonstop hb l e)]; rfl
  · rw [e, (def_facts hb).2.1 n, beq_false_of_ne hn, Bool.and_false]
  · rw [tailLines_no_def hb l e]; rfl

theorem blocks_skip {bs : List Block} (hb : ∀ x ∈ bs, WF x) {n : Str} (hn : ∀ x ∈ bs, x.name ≠ n) :
    ∀ l ∈ renderBlocks bs, (containsFieldDef l && lineDefines l n) = false := by
  induction bs with
  | nil => intro l hl; simp [renderBlocks] at hl
  | cons x xs ih =>
    intro l hl
    simp only [renderBlocks, List.mem_append] at hl
    rcases hl with e | e
    · exact block_skip (hb x List.mem_cons_self) (hn x List.mem_cons_self) l e
    · exact ih (List.forall_mem_cons.mp hb).2 (List.forall_mem_cons.mp hn).2 l e

/-! ### the upward scan stays inside the block -/

theorem scanUp_nonstop {A : List Str} (B : List Str) (h : ∀ l ∈ A, isStop l = false) :
    scanUp (A ++ B) = A ++ scanUp B := by
  induction A with
  | nil => rfl
  | cons a as ih =>
    simp [scanUp, h a List.mem_cons_self, ih (List.forall_mem_cons.mp h).2]

theorem scanUp_stop {A : List Str} (X : List Str) {s : Str} (h : ∀ l ∈ A, isStop l = false) (hs : isStop s = true) :
    scanUp (A ++ s :: X) = A := by
  rw [scanUp_nonstop _ h, scanUp, if_pos hs, List.append_nil]

theorem mem_scanUp {l : Str} {X : List Str} (h : l ∈ scanUp X) : l ∈ X ∧ isStop l = false := by
  induction X with
  | nil => simp [scanUp] at h
  | cons a as ih =>
    rw [scanUp] at h
    split at h
    · cases h
    · next hs =>
      rcases List.mem_cons.mp h with e | e
      · subst e; exact ⟨List.mem_cons_self, by simpa using hs⟩
      · exact ⟨List.mem_cons_of_mem _ (ih e).1, (ih e).2⟩

theorem scanUp_belowLines (bl : Below) (X : List Str) :
    scanUp ((belowLines bl).reverse ++ X) = match bl with
      | .none => scanUp X
      | _ => [] := by
  cases bl with
  | none => rfl
  | one q m =>
    simp only [belowLines, List.reverse_singleton, List.singleton_append]
    rw [List.append_assoc (indent ++ q.tok), scanUp, if_pos (isStop_tok q _)]
  | multi q f r =>
    have hs : isStop (indent ++ q.tok) = true := by
      have := isStop_tok q []
      rwa [List.append_nil] at this
    simp only [belowLines, List.reverse_append, List.reverse_singleton, List.singleton_append]
    rw [List.cons_append, scanUp, if_pos hs]

/-- scanning upwards from below a block stops inside it — at its closing-quote line or its
    definition line — and has passed only blank lines -/
theorem scanUp_block {b : Block} (hb : WF b) (W : List Str) :
    ∀ l ∈ scanUp ((renderBlock b).reverse ++ W), l = [] := by
  have e : (renderBlock b).reverse ++ W = blanks b.gap3 ++ ((belowLines b.below).reverse
      ++ (blanks b.gap2 ++ defLine b :: ((headLines b).reverse ++ W))) := by
    simp [renderBlock_eq, tailLines, blanks_reverse, List.append_assoc]
  rw [e, scanUp_nonstop _ blanks_nonstop, scanUp_belowLines]
  intro l hl
  rcases List.mem_append.mp hl with hl | hl
  · exact mem_blanks hl
  · split at hl
    · rw [scanUp_stop _ blanks_nonstop (isStop_def hb)] at hl
      exact mem_blanks hl
    · cases hl

/-- the context above a block: the header lines after source line 0, then the earlier blocks -/
theorem quiet_context {hs : List Str} {pre : List Block}
    (hh : ∀ l ∈ hs, isHeaderLine l = true ∨ '#' ∉ l)
    (hp : ∀ x ∈ pre, WF x) : ∀ l ∈ scanUp (hs ++ renderBlocks pre).reverse, '#' ∉ l := by
  intro l hl
  rcases List.eq_nil_or_concat pre with e | ⟨pre', p, e⟩
  · subst e
    obtain ⟨hm, hns⟩ := mem_scanUp hl
    rw [renderBlocks, List.append_nil, List.mem_reverse] at hm
    rcases hh l hm with e | e
    · simp [isStop, e] at hns
    · exact e
  · subst e
    rw [List.concat_eq_append] at hl hp
    rw [renderBlocks_append, renderBlocks, renderBlocks, List.append_nil, ← List.append_assoc,
      List.reverse_append] at hl
    rw [scanUp_block (hp p (List.mem_append_right _ List.mem_cons_self)) _ l hl]
    exact List.not_mem_nil

theorem comment_entries {ms : List Str} (h : ∀ m ∈ ms, hasTriple (commentLine m) = false) :
    ((ms.map commentLine).filter (fun l => !isEmptyLine l)).map commentAt = ms.map stripWs := by
  induction ms with
  | nil => rfl
  | cons m ms ih =>
    have hm := comment_facts (h m List.mem_cons_self)
    simp [hm.2.2.1, hm.2.2.2.2, ih (List.forall_mem_cons.mp h).2]

theorem blanks_filter (n : Nat) : (blanks n).filter (fun l => !isEmptyLine l) = [] := by
  induction n with
  | zero => rfl
  | succ k ih => rw [blanks_succ, List.filter_cons_of_neg (by decide +kernel), ih]

theorem strip_join_pad (X ys : List Str) (h : ∀ x ∈ X, x = []) :
    stripWs (joinNl (X ++ ys)) = stripWs (joinNl ys) := by
  induction X with
  | nil => rfl
  | cons x X ih =>
    rw [h x List.mem_cons_self, List.cons_append, ← ih (List.forall_mem_cons.mp h).2]
    cases X ++ ys with
    | nil => rfl
    | cons y ys => exact stripWs_cons_space _ (by decide +kernel)

/-- **locality of the comment-above scan** -/
theorem above_eq {b : Block} (hb : WF b) {ctx : List Str} (hq : ∀ l ∈ scanUp ctx.reverse, '#' ∉ l) :
    commentAbove ((ctx ++ headLines b).reverse) = b.doc.above := by
  rw [commentAbove, List.reverse_append,
    scanUp_nonstop _ (fun l hl => headLines_nonstop hb l (List.mem_reverse.mp hl))]
  simp only [headLines, List.reverse_append, List.reverse_reverse, List.filter_append, List.map_append,
    comment_entries hb.above, blanks_filter, List.append_nil]
  rw [strip_join_pad]
  · rfl
  · intro x hx
    obtain ⟨l, hl, rfl⟩ := List.mem_map.mp hx
    exact commentAt_quiet (hq l (List.mem_reverse.mp (List.mem_filter.mp hl).1))

/-! ### the downward scan stays inside the block -/

theorem docStart_blanks (n : Nat) (L : List Str) : docStart (blanks n ++ L) = docStart L := by
  induction n with
  | zero => rfl
  | succ k ih => rw [blanks_succ, List.cons_append, docStart, if_pos blank_facts.2.2, ih]

/-- below an undocumented field the scan meets the next block's comment or definition (or the end
    of the class) and returns nothing -/
theorem docStart_blocks {post : List Block} (hp : ∀ x ∈ post, WF x) :
    docStart (renderBlocks post) = [] := by
  cases post with
  | nil => rfl
  | cons p ps =>
    have hpw := hp p List.mem_cons_self
    rw [renderBlocks, renderBlock_eq, headLines]
    cases ha : p.above with
    | nil =>
      simp only [List.map_nil, List.nil_append, List.append_assoc]
      rw [docStart_blanks, List.cons_append, docStart]
      simp [def_not_empty hpw.name, (def_facts hpw).1]
    | cons m ms =>
      have hm := comment_facts (hpw.above m (ha ▸ List.mem_cons_self))
      simp only [List.map_cons, List.cons_append]
      rw [docStart]
      simp [hm.2.2.1, hm.2.2.2.1]

/-- the opening line of a docstring, whatever its text `w` (as long as the OTHER triple quote does
    not occur in it): not blank, not a definition, not a comment, and the token is the quote kind
    it starts with -/
theorem docStart_open (q : Quote) (w : Str) (rest : List Str) (ho : breakOn q.other.tok w = none) :
    docStart ((indent ++ q.tok ++ w) :: rest) =
      match breakOn q.tok w with
      | some (mid, _) => [stripWs mid]
      | none => stripWs w :: docRest q.tok rest := by
  obtain ⟨hs, _, _, _, _⟩ := quote_props q
  have hempty : isEmptyLine (indent ++ q.tok ++ w) = false := by
    rw [tok_line_eq, isEmptyLine, lstripWs_indent _ hs]; rfl
  have hcomment : isComment (indent ++ q.tok ++ w) = false := by
    rw [tok_line_eq, isComment, lstripWs_indent _ hs]
    cases q <;> rfl
  have hb : breakOn q.tok (indent ++ q.tok ++ w) = some (indent, w) :=
    breakOn_tok_first q w (not_mem_indent hs)
  have hno : breakOn q.other.tok (indent ++ q.tok ++ w) = none := by
    refine breakOn_tok_skip q.other w (fun h => ?_) ho
    rcases List.mem_append.mp h with h | h
    · exact (other_ch_props q).1 h
    · rw [tok_eq] at h
      simp only [List.mem_cons, List.not_mem_nil, or_false, or_self] at h
      exact (other_ch_props q).2 h
  rw [docStart]
  simp only [hempty, cfd_tok_line q w, hcomment, chooseTok_of q hb hno, hb, Bool.false_eq_true,
    ↓reduceIte, Bool.or_self]
  rfl

/-- the intermediate and closing lines of a multi-line docstring -/
theorem docRest_multi (q : Quote) (r : List Str) (rest : List Str) (h : ∀ m ∈ r, q.ch ∉ m) :
    docRest q.tok (r.map (indent ++ ·) ++ (indent ++ q.tok) :: rest) = r.map stripWs ++ [[]] := by
  have hi : q.ch ∉ indent := not_mem_indent (quote_props q).1
  induction r with
  | nil =>
    have := breakOn_tok_first q [] hi
    rw [List.append_nil] at this
    rw [List.map_nil, List.nil_append, docRest, this]
    rfl
  | cons m ms ih =>
    have hno : q.ch ∉ indent ++ m := by
      intro hc
      rcases List.mem_append.mp hc with e | e
      · exact hi e
      · exact h m List.mem_cons_self e
    simp only [List.map_cons, List.cons_append, docRest, breakOn_tok_absent q hno,
      stripWs_space_left _ indent_allSpace, ih (List.forall_mem_cons.mp h).2]

theorem docStart_belowLines {bl : Below} (hw : BelowOk bl) (R : List Str) (hR : docStart R = []) :
    joinNl (docStart (belowLines bl ++ R)) = belowText bl := by
  cases bl with
  | none => rw [belowLines, List.nil_append, hR]; rfl
  | one q m =>
    have hin : breakOn q.tok (m ++ q.tok) = some (m, []) := by
      have := breakOn_tok_first q [] hw.1
      rwa [List.append_nil] at this
    rw [belowLines, List.singleton_append, List.append_assoc (indent ++ q.tok),
      docStart_open q _ _ hw.2, hin]
    rfl
  | multi q f r =>
    rw [belowLines, List.cons_append, List.cons_append, List.append_assoc _ _ R, List.singleton_append,
      docStart_open q f _ hw.2.1, breakOn_tok_absent q hw.1]
    simp only
    rw [docRest_multi q r _ (fun m hm => (hw.2.2 m hm).1)]
    rfl

/-- **locality of the docstring-below scan**: whatever follows the block -/
theorem below_eq {b : Block} (hb : WF b) {post : List Block} (hp : ∀ x ∈ post, WF x) :
    docBelow (tailLines b ++ renderBlocks post) = belowText b.below := by
  rw [docBelow, tailLines, List.append_assoc, List.append_assoc, docStart_blanks]
  apply docStart_belowLines hb.below
  rw [docStart_blanks, docStart_blocks hp]

/-! ### C19 central theorem: extraction = the block's own documentation -/

/-- **Extraction = documented text on the layout grammar.**  For every header, every list of
    well-formed blocks before (`pre`) and after (`post`) — with names different from `b.name`
    before it, however similar — the scan of the rendered source for `b.name` returns exactly
    `b.doc`, which is a function of the block `b` alone. -/
theorem c19_extract (hdr : List Str) (pre post : List Block) (b : Block)
    (hh : headerOk hdr = true) (hw : ∀ x ∈ pre ++ b :: post, x.wf = true)
    (hn : ∀ x ∈ pre, x.name ≠ b.name) :
    scanLines (hdr ++ renderBlocks (pre ++ b :: post)) b.name = some b.doc := by
  have hW : ∀ x ∈ pre ++ b :: post, WF x := fun x hx => wf_of (hw x hx)
  rw [List.forall_mem_append, List.forall_mem_cons] at hW
  obtain ⟨hprew, hbw, hpostw⟩ := hW
  obtain ⟨h0, hs, rfl, hh'⟩ := header_split hh
  have hhs : ∀ l ∈ hs, containsFieldDef l = false ∧ (isHeaderLine l = true ∨ '#' ∉ l) :=
    fun l hl => hh' l (List.mem_cons_of_mem _ hl)
  have hskip : ∀ l ∈ hs ++ renderBlocks pre ++ headLines b,
      (containsFieldDef l && lineDefines l b.name) = false :=
    List.forall_mem_append.mpr ⟨List.forall_mem_append.mpr
      ⟨fun l e => by rw [(hhs l e).1]; rfl, blocks_skip hprew hn⟩,
      fun l e => by rw [cfd_of_nonstop (headLines_nonstop hbw l e)]; rfl⟩
  have elines : (h0 :: hs) ++ renderBlocks (pre ++ b :: post)
      = h0 :: ((hs ++ renderBlocks pre ++ headLines b) ++ defLine b :: (tailLines b ++ renderBlocks post)) := by
    rw [renderBlocks_append, renderBlocks, renderBlock_eq]
    simp only [List.append_assoc, List.cons_append]
  have hd := def_facts hbw
  rw [elines, scanLines_skip _ (hh' h0 List.mem_cons_self).1 hskip, scanFrom]
  simp only [hd.1, hd.2.1, beq_self_eq_true, Bool.and_self, ↓reduceIte]
  rw [above_eq hbw (quiet_context (fun l hl => (hhs l hl).2) hprew), hd.2.2, below_eq hbw hpostw]
  rfl

/-- the same at the level of one class: when the class source (after the removal of `__doc__`)
    splits into the lines of a layout, the class-level extractor returns the block's documentation
    plus the class-docstring entry of that very name. -/
theorem c19_class (c : ClassSrc) (hdr : List Str) (pre post : List Block) (b : Block)
    (hsrc : classLines c = some (hdr ++ renderBlocks (pre ++ b :: post)))
    (hh : headerOk hdr = true) (hw : ∀ x ∈ pre ++ b :: post, x.wf = true)
    (hn : ∀ x ∈ pre, x.name ≠ b.name) :
    scanClass c b.name = some { b.doc with cls := clsDesc c.params b.name } := by
  unfold scanClass
  rw [hsrc]
  simp only
  rw [c19_extract hdr pre post b hh hw hn]

/-- **No leak between fields.**  Replace everything around the block — the header, the blocks
    before and after it, with whatever texts, any names but this one (`a` next to `ab` included) —
    and the field still gets the same documentation. -/
theorem c19_no_leak (hdr hdr' : List Str) (pre post pre' post' : List Block) (b : Block)
    (hh : headerOk hdr = true) (hh' : headerOk hdr' = true)
    (hw : ∀ x ∈ pre ++ b :: post, x.wf = true) (hw' : ∀ x ∈ pre' ++ b :: post', x.wf = true)
    (hn : ∀ x ∈ pre, x.name ≠ b.name) (hn' : ∀ x ∈ pre', x.name ≠ b.name) :
    scanLines (hdr ++ renderBlocks (pre ++ b :: post)) b.name
      = scanLines (hdr' ++ renderBlocks (pre' ++ b :: post')) b.name := by
  rw [c19_extract hdr pre post b hh hw hn, c19_extract hdr' pre' post' b hh' hw' hn']

/-- **No documentation ⇒ no text**: an undocumented block yields four empty texts, whatever
    documentation its neighbours carry. -/
theorem c19_none (hdr : List Str) (pre post : List Block) (b : Block)
    (hh : headerOk hdr = true) (hw : ∀ x ∈ pre ++ b :: post, x.wf = true)
    (hn : ∀ x ∈ pre, x.name ≠ b.name)
    (h1 : b.above = []) (h2 : b.inline = none) (h3 : b.below = Below.none) :
    scanLines (hdr ++ renderBlocks (pre ++ b :: post)) b.name = some Doc.empty := by
  rw [c19_extract hdr pre post b hh hw hn, Block.doc, h1, h2, h3]
  rfl

/-- **A class without a block of that name does not define it** (no cross-class / cross-field
    leak into a name that is not there): the scan returns `none`, whatever the blocks say — also
    when further lines follow the blocks, as long as none of them is read as a definition of `n`
    (see finding C19-method-local for what happens otherwise). -/
theorem c19_absent (hdr : List Str) (bs : List Block) (trailer : List Str) (n : Str)
    (hh : headerOk hdr = true) (hw : ∀ x ∈ bs, x.wf = true) (hn : ∀ x ∈ bs, x.name ≠ n)
    (ht : ∀ l ∈ trailer, (containsFieldDef l && lineDefines l n) = false) :
    scanLines (hdr ++ renderBlocks bs ++ trailer) n = none := by
  obtain ⟨h0, hs, rfl, hh'⟩ := header_split hh
  have hskip : ∀ l ∈ hs ++ renderBlocks bs ++ trailer,
      (containsFieldDef l && lineDefines l n) = false :=
    List.forall_mem_append.mpr ⟨List.forall_mem_append.mpr
      ⟨fun l e => by rw [(hh' l (List.mem_cons_of_mem _ e)).1]; rfl,
       blocks_skip (fun x hx => wf_of (hw x hx)) hn⟩, ht⟩
  have e : (h0 :: hs) ++ renderBlocks bs ++ trailer = h0 :: ((hs ++ renderBlocks bs ++ trailer) ++ []) := by
    simp
  rw [e, scanLines_skip _ (hh' h0 List.mem_cons_self).1 hskip]
  rfl

/-! ### composed statements: class level, chain level, help level -/

/-- a class as the layout grammar sees it -/
structure ClassLayout where
  hdr : List Str
  blocks : List Block

def ClassLayout.ok (L : ClassLayout) : Bool := headerOk L.hdr && L.blocks.all Block.wf

/-- what a class contributes for the name `n`: the documentation of its (first) block named `n`
    plus its class-docstring entry for `n`; the entry alone when it has no such block; nothing when
    it has neither.  A function of the block named `n` and of the entries for `n` only. -/
def contribution (L : ClassLayout) (params : List (Str × Str)) (n : Str) : Option Doc :=
  match L.blocks.find? (fun b => b.name == n) with
  | some b => some { b.doc with cls := clsDesc params n }
  | none => if (clsDesc params n).isEmpty then none else some ⟨[], [], [], clsDesc params n⟩

/-- **class level**: for a class whose source splits into a layout, the extractor returns exactly
    the contribution of the block of that name — for every name, present or not. -/
theorem c19_class_layout (c : ClassSrc) (L : ClassLayout) (n : Str)
    (hsrc : classLines c = some (L.hdr ++ renderBlocks L.blocks))
    (hok : L.ok = true) : scanClass c n = contribution L c.params n := by
  simp only [ClassLayout.ok, Bool.and_eq_true, List.all_eq_true] at hok
  unfold scanClass contribution
  rw [hsrc]
  simp only
  cases hf : L.blocks.find? (fun b => b.name == n) with
  | none =>
    have hn : ∀ x ∈ L.blocks, x.name ≠ n := by
      intro x hx
      have := List.find?_eq_none.mp hf x hx
      simpa using this
    have := c19_absent L.hdr L.blocks [] n hok.1 hok.2 hn (by simp)
    simp only [List.append_nil] at this
    rw [this]
  | some b =>
    obtain ⟨hb, pre, post, hsplit, hpre⟩ := List.find?_eq_some_iff_append.mp hf
    have hbn : b.name = n := by simpa using hb
    have hw : ∀ x ∈ pre ++ b :: post, x.wf = true := by
      intro x hx; rw [← hsplit] at hx; exact hok.2 x hx
    have hn : ∀ x ∈ pre, x.name ≠ b.name := by
      intro x hx
      have := hpre x hx
      rw [hbn]
      simpa using this
    have := c19_extract L.hdr pre post b hok.1 hw hn
    rw [hsplit, ← hbn, this]

/-- **chain level**: over an MRO whose classes each split into a layout, the accumulated
    documentation of `n` is the first-non-empty merge (per kind, nearest class first — `c19_mro`)
    of the per-class contributions: only blocks named `n` and entries for `n` matter, in every
    class of the chain. -/
theorem c19_chain (mro : List (ClassSrc × ClassLayout)) (n : Str)
    (h : ∀ p ∈ mro, classLines p.1 = some (p.2.hdr ++ renderBlocks p.2.blocks)
      ∧ p.2.ok = true) :
    attributeDoc (mro.map (·.1)) n
      = getAttributeDocstring (mro.map (fun p => contribution p.2 p.1.params n)) := by
  unfold attributeDoc
  congr 1
  rw [List.map_map]
  apply List.map_congr_left
  intro p hp
  exact c19_class_layout p.1 p.2 n (h p hp).1 (h p hp).2

/-- **help level**: the help text shown for `n` is a function of its explicit `help=`, and — class
    by class along the chain — of the block named `n` and the class-docstring entry for `n`.  Two
    modules that agree on those show the same help for `n`, whatever all other fields, comments
    and docstrings of all the classes say (no leak at the level of the argparse action). -/
theorem c19_help_own (mro mro' : List (ClassSrc × ClassLayout)) (n : Str) (custom metaH : Option Str)
    (h : ∀ p ∈ mro, classLines p.1 = some (p.2.hdr ++ renderBlocks p.2.blocks)
      ∧ p.2.ok = true)
    (h' : ∀ p ∈ mro', classLines p.1 = some (p.2.hdr ++ renderBlocks p.2.blocks)
      ∧ p.2.ok = true)
    (hsame : mro.map (fun p => contribution p.2 p.1.params n)
      = mro'.map (fun p => contribution p.2 p.1.params n)) :
    actionHelp custom metaH (attributeDoc (mro.map (·.1)) n)
      = actionHelp custom metaH (attributeDoc (mro'.map (·.1)) n) := by
  rw [c19_chain mro n h, c19_chain mro' n h', hsame]

/-! ### MRO accumulation: each kind from the nearest class that provides it -/

/-- Python's `a or b or c …` over a list of strings -/
def firstNonEmpty : List Str → Str
  | [] => []
  | x :: xs => orStr x (firstNonEmpty xs)

theorem orStr_nil (a : Str) : orStr a [] = a := by cases a <;> rfl

theorem orStr_assoc (a b c : Str) : orStr (orStr a b) c = orStr a (orStr b c) := by
  cases a <;> simp [orStr]

theorem orStr_absorb (a b : Str) : orStr (orStr a b) b = orStr a b := by
  cases a <;> cases b <;> simp [orStr]

theorem merge_empty (c : Doc) : merge c Doc.empty = c := by
  simp [merge, Doc.empty, orStr_nil]

theorem merge_assoc (a b c : Doc) : merge (merge a b) c = merge a (merge b c) := by
  simp [merge, orStr_assoc]

theorem merge_absorb (a b : Doc) : merge (merge a b) b = merge a b := by
  simp [merge, orStr_absorb]

theorem accumulate_some (c : Doc) (ds : List (Option Doc)) :
    (accumulate (some c) ds).getD Doc.empty = merge c (getAttributeDocstring ds) := by
  induction ds generalizing c with
  | nil => exact (merge_empty c).symm
  | cons d ds ih =>
    cases d with
    | none => exact ih c
    | some d =>
      have hd : getAttributeDocstring (some d :: ds) = merge d (getAttributeDocstring ds) := ih d
      rw [accumulate, ih, merge_assoc, hd]

theorem getAttributeDocstring_cons (o : Option Doc) (ds : List (Option Doc)) :
    getAttributeDocstring (o :: ds) = match o with
      | some d => merge d (getAttributeDocstring ds)
      | none => getAttributeDocstring ds := by
  cases o with
  | none => rfl
  | some d => exact accumulate_some d ds

theorem getAttributeDocstring_empty (ds : List (Option Doc)) (h : ∀ d ∈ ds, d = none ∨ d = some Doc.empty) :
    getAttributeDocstring ds = Doc.empty := by
  induction ds with
  | nil => rfl
  | cons d ds ih =>
    rw [getAttributeDocstring_cons, ih (List.forall_mem_cons.mp h).2]
    rcases h d List.mem_cons_self with e | e <;> rw [e] <;> rfl

theorem getAttributeDocstring_proj (p : Doc → Str) (hp : ∀ c d, p (merge c d) = orStr (p c) (p d))
    (he : p Doc.empty = []) (ds : List (Option Doc)) :
    p (getAttributeDocstring ds) = firstNonEmpty ((ds.filterMap id).map p) := by
  induction ds with
  | nil => exact he
  | cons o ds ih =>
    rw [getAttributeDocstring_cons]
    cases o with
    | none => exact ih
    | some d => rw [hp, ih]; rfl

/-- **Each kind of documentation is taken from the nearest class that provides it**: for the
    per-class results in MRO order (`none` = the class does not define the field), every one of
    the four texts is the first non-empty one, independently of the other three kinds.  Any
    chain length. -/
theorem c19_mro (ds : List (Option Doc)) :
    (getAttributeDocstring ds).above = firstNonEmpty ((ds.filterMap id).map (·.above)) ∧
    (getAttributeDocstring ds).inline = firstNonEmpty ((ds.filterMap id).map (·.inline)) ∧
    (getAttributeDocstring ds).below = firstNonEmpty ((ds.filterMap id).map (·.below)) ∧
    (getAttributeDocstring ds).cls = firstNonEmpty ((ds.filterMap id).map (·.cls)) :=
  ⟨getAttributeDocstring_proj (·.above) (fun _ _ => rfl) rfl ds,
   getAttributeDocstring_proj (·.inline) (fun _ _ => rfl) rfl ds,
   getAttributeDocstring_proj (·.below) (fun _ _ => rfl) rfl ds,
   getAttributeDocstring_proj (·.cls) (fun _ _ => rfl) rfl ds⟩

/-! ### the caches are invisible on linear chains — and visible on a diamond -/

theorem chainMro_succ {n q d : Nat} (h : n - q = d + 1) :
    chainMro n q = q :: chainMro n (q + 1) ∧ n - (q + 1) = d := by
  have hd : n - (q + 1) = d := by rw [Nat.sub_succ, h]; rfl
  rw [chainMro, chainMro, h, hd, List.range'_succ]
  exact ⟨rfl, rfl⟩

theorem chainMro_zero {n q : Nat} (h : n - q = 0) : chainMro n q = [] := by
  rw [chainMro, h]; rfl

theorem pureAnswer_step (raw : Nat → Option Doc) {n q d : Nat} (h : n - q = d + 1) :
    pureAnswer raw (chainMro n) q = match raw q with
      | some x => merge x (pureAnswer raw (chainMro n) (q + 1))
      | none => pureAnswer raw (chainMro n) (q + 1) := by
  rw [pureAnswer, (chainMro_succ h).1, List.map_cons, getAttributeDocstring_cons]; rfl

/-- the invariant: every cached accumulator of a class that has a record holds that class's
    one-shot answer -/
def CacheOk (raw : Nat → Option Doc) (n : Nat) (cache : Cache) : Prop :=
  ∀ k d, (k, d) ∈ cache → (raw k).isSome = true ∧ d = pureAnswer raw (chainMro n) k

theorem entry_cases {raw : Nat → Option Doc} {n : Nat} {cache : Cache} (hc : CacheOk raw n cache) (k : Nat) :
    entry raw cache k = raw k ∨
      ((raw k).isSome = true ∧ entry raw cache k = some (pureAnswer raw (chainMro n) k)) := by
  unfold entry
  cases hl : cache.lookup k with
  | none => exact Or.inl rfl
  | some d =>
    obtain ⟨l1, l2, he, _⟩ := List.lookup_eq_some_iff.mp hl
    obtain ⟨h1, h2⟩ := hc k d (by rw [he]; simp)
    exact Or.inr ⟨h1, by rw [h2]⟩

/-- a cached, suffix-merged record merges like the raw records it was made of (`merge_absorb`);
    induction on the number `n - q` of classes from `q` on -/
theorem chain_entries {raw : Nat → Option Doc} {n : Nat} {cache : Cache} (hc : CacheOk raw n cache) :
    ∀ d q, n - q = d →
      getAttributeDocstring ((chainMro n q).map (entry raw cache)) = pureAnswer raw (chainMro n) q := by
  intro d
  induction d with
  | zero => intro q hd; rw [pureAnswer, chainMro_zero hd]; rfl
  | succ d ih =>
    intro q hd
    rw [(chainMro_succ hd).1, List.map_cons, getAttributeDocstring_cons, ih _ (chainMro_succ hd).2,
      pureAnswer_step raw hd]
    rcases entry_cases hc q with e | ⟨hs, e⟩
    · rw [e]
    · rw [e]
      cases hr : raw q with
      | none => rw [hr] at hs; cases hs
      | some x => rw [pureAnswer_step raw hd, hr]; exact merge_absorb x _

theorem lookupMut_fst (raw : Nat → Option Doc) (cache : Cache) (mro : List Nat) :
    (lookupMut raw cache mro).1 = getAttributeDocstring (mro.map (entry raw cache)) := by
  unfold lookupMut
  cases firstFound raw cache mro <;> rfl

theorem chain_lookup_answer {raw : Nat → Option Doc} {n : Nat} {cache : Cache} (hc : CacheOk raw n cache)
    (q : Nat) : (lookupMut raw cache (chainMro n q)).1 = pureAnswer raw (chainMro n) q :=
  (lookupMut_fst ..).trans (chain_entries hc _ q rfl)

/-- the accumulator's class is the first class of the chain with a record; the classes before it
    have none, so its one-shot answer is the queried class's one-shot answer -/
theorem firstFound_pure {raw : Nat → Option Doc} {n : Nat} {cache : Cache} (hc : CacheOk raw n cache) (k0 : Nat) :
    ∀ d q, n - q = d → firstFound raw cache (chainMro n q) = some k0 →
      (raw k0).isSome = true ∧ pureAnswer raw (chainMro n) k0 = pureAnswer raw (chainMro n) q := by
  intro d
  induction d with
  | zero => intro q hd h; rw [chainMro_zero hd] at h; cases h
  | succ d ih =>
    intro q hd h
    rw [(chainMro_succ hd).1, firstFound] at h
    by_cases he : (entry raw cache q).isSome = true
    · rw [if_pos he] at h
      rw [← Option.some.inj h]
      rcases entry_cases hc q with e | ⟨hs, _⟩
      · rw [e] at he; exact ⟨he, rfl⟩
      · exact ⟨hs, rfl⟩
    · rw [if_neg he] at h
      have hraw : raw q = none := by
        rcases entry_cases hc q with e | ⟨_, e⟩
        · rw [e] at he; simpa using he
        · rw [e] at he; simp at he
      rw [pureAnswer_step raw hd, hraw]
      exact ih _ (chainMro_succ hd).2 h

theorem chain_lookup_cache {raw : Nat → Option Doc} {n : Nat} {cache : Cache} (hc : CacheOk raw n cache)
    (q : Nat) : CacheOk raw n (lookupMut raw cache (chainMro n q)).2 := by
  unfold lookupMut
  cases hf : firstFound raw cache (chainMro n q) with
  | none => exact hc
  | some k0 =>
    intro k d hm
    rcases List.mem_cons.mp hm with e | e
    · obtain ⟨h1, h2⟩ := firstFound_pure hc k0 _ q rfl hf
      cases e
      exact ⟨h1, (chain_entries hc _ q rfl).trans h2.symm⟩
    · exact hc k d e

/-- **Linear chains: the caches are invisible.**  Whatever classes of a chain are looked up, in
    whatever order and however often, in one process, every answer is the one-shot answer — the
    in-place merge into the cached record is harmless there, because merging a suffix-merged record
    equals merging the raw records (`merge_absorb`).  Any chain length, any query sequence. -/
theorem c19_cache_linear (raw : Nat → Option Doc) (n : Nat) (qs : List Nat) :
    runLookups raw (chainMro n) [] qs = qs.map (pureAnswer raw (chainMro n)) := by
  suffices ∀ cache, CacheOk raw n cache →
      runLookups raw (chainMro n) cache qs = qs.map (pureAnswer raw (chainMro n)) from
    this [] (fun _ _ h => by simp at h)
  induction qs with
  | nil => intro _ _; rfl
  | cons q qs ih =>
    intro cache hc
    simp only [runLookups, List.map_cons, chain_lookup_answer hc q]
    rw [ih _ (chain_lookup_cache hc q)]

/-- FULL STATEMENT: for every hierarchy the answers of a sequence of look-ups are the one-shot answers -/
def FullStatement_cache : Prop :=
  ∀ (raw : Nat → Option Doc) (mroOf : Nat → List Nat) (qs : List Nat),
    runLookups raw mroOf [] qs = qs.map (pureAnswer raw mroOf)

/-- diamond 3 = D(B, C), 1 = B(A), 2 = C(A), 0 = A -/
def diamondMro : Nat → List Nat
  | 3 => [3, 1, 2, 0]
  | 1 => [1, 0]
  | 2 => [2, 0]
  | 0 => [0]
  | _ => []
def diamondRaw : Nat → Option Doc
  | 0 => some ⟨[], "inline A".toList, [], []⟩
  | 1 => some ⟨[], [], "below B".toList, []⟩
  | 2 => some ⟨[], "inline C".toList, [], []⟩
  | _ => none

theorem diamond_fresh : runLookups diamondRaw diamondMro [] [3] = [⟨[], "inline C".toList, "below B".toList, []⟩] := by
  decide_lit
theorem diamond_after_B : runLookups diamondRaw diamondMro [] [1, 3]
    = [⟨[], "inline A".toList, "below B".toList, []⟩, ⟨[], "inline A".toList, "below B".toList, []⟩] := by decide_lit

/-- finding C19-diamond-history: after `B` was looked up (its cached record now carries `A`'s inline
    comment), `D(B, C)` answers with `A`'s inline comment instead of the nearer `C`'s -/
theorem c19_diamond_history_witness : ¬ FullStatement_cache := by
  intro h
  -- both observed answers of `D` would have to be its one-shot answer
  have h3 := (h diamondRaw diamondMro [3]).symm.trans diamond_fresh
  have h13 := (h diamondRaw diamondMro [1, 3]).symm.trans diamond_after_B
  have := (List.cons.inj (List.cons.inj h13).2).1.symm.trans (List.cons.inj h3).1
  revert this
  decide_lit

example : runLookups diamondRaw diamondMro [] [3] = [⟨[], "inline C".toList, "below B".toList, []⟩] := diamond_fresh
example : runLookups diamondRaw diamondMro [] [1, 3]
    = [⟨[], "inline A".toList, "below B".toList, []⟩, ⟨[], "inline A".toList, "below B".toList, []⟩] := diamond_after_B
/-- the hypotheses of `c19_cache_linear` are satisfiable: a chain of 3 classes, looked up back and forth -/
example : runLookups diamondRaw (chainMro 3) [] [0, 2, 1, 0, 2]
    = [0, 2, 1, 0, 2].map (pureAnswer diamondRaw (chainMro 3)) := c19_cache_linear _ _ _

/-! ### precedence -/

/-- an explicit `help=` handed to `simple_parsing.field` wins over everything -/
theorem c19_precedence_custom (h : Str) (m : Option Str) (d : Doc) : actionHelp (some h) m d = some h := rfl

/-- a non-empty `metadata["help"]` wins over every source-level documentation -/
theorem c19_precedence_meta (h : Str) (d : Doc) (hne : h ≠ []) : actionHelp none (some h) d = some h := by
  cases h with
  | nil => contradiction
  | cons c cs => rfl

/-- **Precedence**: without an explicit `help=`, the help is the first non-empty of docstring
    below, comment above, inline comment, class-docstring entry — and there is none when all four
    are empty (no invented text). -/
theorem c19_precedence (d : Doc) :
    actionHelp none none d =
      (if (firstNonEmpty [d.below, d.above, d.inline, d.cls]).isEmpty then none
       else some (firstNonEmpty [d.below, d.above, d.inline, d.cls])) := by
  simp [actionHelp, fieldHelp, helpString, firstNonEmpty, orStr_nil]

theorem c19_none_help : actionHelp none none Doc.empty = none := by decide

/-- no documentation for `n` anywhere in the chain (undocumented block or no block, no entry) and
    no `help=` ⇒ the action gets no help text -/
theorem c19_help_none (mro : List (ClassSrc × ClassLayout)) (n : Str)
    (h : ∀ p ∈ mro, classLines p.1 = some (p.2.hdr ++ renderBlocks p.2.blocks)
      ∧ p.2.ok = true)
    (hnone : ∀ p ∈ mro, contribution p.2 p.1.params n = none ∨ contribution p.2 p.1.params n = some Doc.empty) :
    actionHelp none none (attributeDoc (mro.map (·.1)) n) = none := by
  rw [c19_chain mro n h, getAttributeDocstring_empty _ (List.forall_mem_map.mpr hnone)]
  rfl

/-- the class-docstring position is matched by exact name too -/
theorem clsDesc_absent (params : List (Str × Str)) (name : Str) (h : ∀ p ∈ params, p.1 ≠ name) :
    clsDesc params name = [] := by
  unfold clsDesc
  induction params with
  | nil => rfl
  | cons p ps ih =>
    have hp : (p.1 == name) = false := beq_false_of_ne (h p List.mem_cons_self)
    rw [List.foldl_cons, hp]
    exact ih (List.forall_mem_cons.mp h).2

/-! ### open findings: full statements, refuted by witnesses; named decidable exclusions -/

/-- FULL STATEMENT (texts of docstrings are just texts): extraction = own documentation for every
    block that is well-formed EXCEPT that intermediate docstring lines may say anything. -/
def FullStatement_docText : Prop :=
  ∀ (hdr : List Str) (pre post : List Block) (b : Block), headerOk hdr = true →
    (∀ x ∈ pre ++ b :: post, x.wfLoose = true) → (∀ x ∈ pre, x.name ≠ b.name) →
    scanLines (hdr ++ renderBlocks (pre ++ b :: post)) b.name = some b.doc

def colonA : Block :=
  { above := [], gap1 := 0, name := "a".toList, tail := " int = 0".toList, inline := none, gap2 := 0,
    below := .multi .dq [] ["about a".toList, "b: is related".toList], gap3 := 0 }
def colonB : Block :=
  { above := [], gap1 := 0, name := "b".toList, tail := " int = 1".toList, inline := some "side of b".toList,
    gap2 := 0, below := .none, gap3 := 0 }
attribute [lit] colonA colonB

theorem headerOk_C0 : headerOk ["class C0:".toList] = true := by decide_lit

theorem colon_scan : scanLines (["class C0:".toList] ++ renderBlocks [colonA, colonB]) "b".toList
    = some ⟨[], [], "\nb: int = 1  # side of b".toList, []⟩ := by decide_lit

/-- finding C19-docstring-colon: the line `b: is related` in the docstring of `a` is taken for the
    definition of `b`; `b` loses its inline comment and shows its own source line -/
theorem c19_docstring_colon_witness : ¬ FullStatement_docText := by
  intro h
  have := (h _ [colonA] [] colonB headerOk_C0 (by decide_lit) (by decide +kernel)).symm.trans colon_scan
  revert this
  decide_lit

example : scanLines (["class C0:".toList] ++ renderBlocks [colonA, colonB]) "b".toList
    = some ⟨[], [], "\nb: int = 1  # side of b".toList, []⟩ := colon_scan

/-- the partial theorem is `c19_extract`: `Block.wf` is `wfLoose` minus the named exclusion -/
theorem c19_extract_partial_exclusion (b : Block) : b.wf = (b.wfLoose && !b.docLooksLikeDef) := rfl

/-- FULL STATEMENT (a class docstring that stays in the source is just text): with the lines of a
    docstring between the header and the blocks, every field still gets its own documentation. -/
def FullStatement_classdoc : Prop :=
  ∀ (hdr : List Str) (q : Quote) (first : Str) (rest : List Str) (pre post : List Block) (b : Block),
    headerOk hdr = true → (∀ x ∈ pre ++ b :: post, x.wf = true) → (∀ x ∈ pre, x.name ≠ b.name) →
    scanLines (hdr ++ belowLines (.multi q first rest) ++ renderBlocks (pre ++ b :: post)) b.name = some b.doc

def belowA : Block :=
  { above := [], gap1 := 0, name := "a".toList, tail := " int = 0".toList, inline := none, gap2 := 0,
    below := .one .dq "below a".toList, gap3 := 0 }
attribute [lit] belowA

/-- finding C19-classdoc-escape: when `cls.__doc__` is not found in the source (escape sequence in
    the docstring) its lines stay, and `a: entry` is read as the definition of `a` -/
theorem c19_classdoc_kept_witness : ¬ FullStatement_classdoc := by
  intro h
  have := h ["class C0:".toList] .dq "Summary\\twith tab.".toList ["Args:".toList, "    a: entry of a".toList]
    [] [] belowA headerOk_C0 (by decide_lit) (by simp)
  revert this
  decide_lit

/-- named exclusion: a line of the kept docstring looks like a definition or carries a `#` -/
def docstringKeptHarmful (q : Quote) (first : Str) (rest : List Str) : Bool :=
  (belowLines (.multi q first rest)).any (fun l => containsFieldDef l || l.contains '#')

/-- partial: a kept class docstring none of whose lines looks like a definition (or has a `#`)
    changes nothing -/
theorem c19_classdoc_kept_partial (hdr : List Str) (q : Quote) (first : Str) (rest : List Str)
    (pre post : List Block) (b : Block) (hh : headerOk hdr = true)
    (hex : docstringKeptHarmful q first rest = false)
    (hw : ∀ x ∈ pre ++ b :: post, x.wf = true) (hn : ∀ x ∈ pre, x.name ≠ b.name) :
    scanLines (hdr ++ belowLines (.multi q first rest) ++ renderBlocks (pre ++ b :: post)) b.name
      = some b.doc := by
  apply c19_extract _ pre post b _ hw hn
  simp only [headerOk, Bool.and_eq_true, List.all_eq_true] at hh ⊢
  simp only [docstringKeptHarmful, List.any_eq_false, Bool.or_eq_true, not_or, Bool.not_eq_true] at hex
  refine ⟨?_, ?_⟩
  · cases hdr with
    | nil => simp at hh
    | cons x xs => simp
  · intro l hl
    rcases List.mem_append.mp hl with e | e
    · exact hh.2 l e
    · have := hex l e
      simp only [this.1, Bool.not_false, true_and, Bool.or_eq_true, Bool.not_eq_eq_eq_not, Bool.not_true]
      exact Or.inr this.2

example : docstringKeptHarmful .dq "Summary".toList (["", "more words about the class"].map String.toList) = false := by
  decide_lit

/-- FULL STATEMENT (comments of the class header are nobody's documentation), for headers of any
    number of lines -/
def FullStatement_header : Prop :=
  ∀ (hdr : List Str) (pre post : List Block) (b : Block),
    (!hdr.isEmpty && hdr.all (fun l => !containsFieldDef l)) = true →
    (∀ x ∈ pre ++ b :: post, x.wf = true) → (∀ x ∈ pre, x.name ≠ b.name) →
    scanLines (hdr ++ renderBlocks (pre ++ b :: post)) b.name = some b.doc

def plainBlock : Block :=
  { above := [], gap1 := 0, name := "a".toList, tail := " int = 0".toList, inline := none,
    gap2 := 0, below := .none, gap3 := 0 }
attribute [lit] plainBlock

theorem plainBlock_wf : ∀ x ∈ [plainBlock], x.wf = true := by decide_lit

/-- finding C19-multiline-header: a comment on a continuation line of the class header becomes the
    first field's comment above (the repair 140247d covers the `class` / `@` lines only) -/
theorem c19_multiline_header_witness : ¬ FullStatement_header := by
  intro h
  have := h (["@dataclass", "class C1(", "    C0,  # the base", "):"].map String.toList) [] [] plainBlock
    (by decide_lit) plainBlock_wf (by simp)
  revert this
  decide_lit

/-- named exclusion: a `#` on a header line that is neither the `class` line nor a decorator line -/
def commentInsideHeader (hdr : List Str) : Bool := hdr.any (fun l => l.contains '#' && !isHeaderLine l)

theorem all_and {α : Type} (p q : α → Bool) (l : List α) :
    l.all (fun x => p x && q x) = (l.all p && l.all q) := by
  induction l with
  | nil => rfl
  | cons a l ih => simp only [List.all_cons, ih, Bool.and_assoc, Bool.and_left_comm]

theorem c19_header_partial_exclusion (hdr : List Str) :
    headerOk hdr = (!hdr.isEmpty && hdr.all (fun l => !containsFieldDef l) && !commentInsideHeader hdr) := by
  have hq : (fun l : Str => (isHeaderLine l || !l.contains '#'))
      = fun l => !(l.contains '#' && !isHeaderLine l) := by
    funext l
    cases isHeaderLine l <;> cases l.contains '#' <;> rfl
  rw [headerOk, commentInsideHeader, List.not_any_eq_all_not, ← hq, Bool.and_assoc, ← all_and]

/-- FULL STATEMENT (what follows the fields — methods — does not define fields): a name without a
    block is not defined, whatever lines follow the blocks. -/
def FullStatement_trailer : Prop :=
  ∀ (hdr : List Str) (bs : List Block) (trailer : List Str) (n : Str), headerOk hdr = true →
    (∀ x ∈ bs, x.wf = true) → (∀ x ∈ bs, x.name ≠ n) →
    scanLines (hdr ++ renderBlocks bs ++ trailer) n = none

/-- finding C19-method-local: the annotated local `total: int = 0  # running sum` of a method is read
    as a definition of the (inherited) field `total` -/
theorem c19_method_local_witness : ¬ FullStatement_trailer := by
  intro h
  have := h ["class C1(C0):".toList] [plainBlock]
    (["", "    def run(self):", "        total: int = 0  # running sum", "        return total"].map String.toList)
    "total".toList (by decide_lit) plainBlock_wf (by decide_lit)
  revert this
  decide_lit

/-- named exclusion; the partial theorem is `c19_absent`, whose hypothesis `ht` is its negation -/
def trailerDefines (trailer : List Str) (n : Str) : Bool :=
  trailer.any (fun l => containsFieldDef l && lineDefines l n)

theorem c19_absent_partial (hdr : List Str) (bs : List Block) (trailer : List Str) (n : Str)
    (hh : headerOk hdr = true) (hw : ∀ x ∈ bs, x.wf = true) (hn : ∀ x ∈ bs, x.name ≠ n)
    (hex : trailerDefines trailer n = false) :
    scanLines (hdr ++ renderBlocks bs ++ trailer) n = none := by
  exact c19_absent hdr bs trailer n hh hw hn
    (fun l hl => Bool.eq_false_iff.mpr (List.any_eq_false.mp hex l hl))

example : trailerDefines (["", "    def run(self):", "        \"\"\"run it\"\"\"", "        return 0"].map String.toList)
    "total".toList = false := by decide_lit

/-- FULL STATEMENT (the docstring right after a definition is its docstring below — also when
    the definition needs several lines): continuation lines between the opening line of the
    definition and the docstring do not matter. -/
def tailOpenOk (tail : Str) : Bool :=
  match runTok ⟨none, [], .ident⟩ (':' :: tail) with
  | some s => s.inStr.isNone
  | none => false

/-- `Block.wf` where the definition line may leave brackets open (`field(` … closed on a later line) -/
def wfOpen (b : Block) : Bool :=
  isIdentifier b.name && !b.tail.contains ':' && tailOpenOk b.tail
  && b.above.all aboveOk
  && (match b.below with
      | .none => true
      | .one q m => docLineOk q m && openOk q (m ++ q.tok)
      | .multi q f r => docLineOk q f && openOk q f && r.all (docLineOk q))
  && !b.docLooksLikeDef

/-- named exclusion: the opening line of the definition leaves a bracket open -/
def opensBracket (b : Block) : Bool := !tailOk b.tail

def FullStatement_belowMultiline : Prop :=
  ∀ (hdr : List Str) (b : Block) (conts : List Str), headerOk hdr = true → wfOpen b = true → b.gap2 = 0 →
    (∀ l ∈ conts, containsFieldDef l = false ∧ isEmptyLine l = false) →
    scanLines (hdr ++ (b.above.map commentLine ++ blanks b.gap1 ++ [defLine b] ++ conts
      ++ belowLines b.below ++ blanks b.gap3)) b.name = some b.doc

def multiDefBlock : Block :=
  { above := [], gap1 := 0, name := "a".toList, tail := " int = field(default=0,".toList, inline := none,
    gap2 := 0, below := .one .dq "below a".toList, gap3 := 0 }
attribute [lit] multiDefBlock

theorem multiDefBlock_open : wfOpen multiDefBlock = true ∧ opensBracket multiDefBlock = true := by decide_lit

/-- finding C19-docstring-below-multiline: the search for the docstring starts on the line after
    the OPENING line of the definition; the continuation line `    )` is neither blank, nor a
    definition, nor a quote — the docstring below is not found -/
theorem c19_below_multiline_witness : ¬ FullStatement_belowMultiline := by
  intro h
  have := h _ multiDefBlock ["    )".toList] headerOk_C0 multiDefBlock_open.1 rfl (by decide_lit)
  revert this
  decide_lit

example : scanLines (["class C0:".toList] ++ [defLine multiDefBlock, "    )".toList, "    \"\"\"below a\"\"\"".toList])
    "a".toList = some Doc.empty := by decide_lit

example : wfOpen multiDefBlock = true ∧ opensBracket multiDefBlock = true := multiDefBlock_open

/-- partial: under the exclusion `opensBracket b = false` (that is what `Block.wf` adds to `wfOpen`)
    there are no continuation lines and the statement is `c19_extract` -/
theorem c19_below_multiline_partial (hdr : List Str) (b : Block) (hh : headerOk hdr = true)
    (hw : b.wf = true) (hg : b.gap2 = 0) :
    scanLines (hdr ++ (b.above.map commentLine ++ blanks b.gap1 ++ [defLine b] ++ ([] : List Str)
      ++ belowLines b.below ++ blanks b.gap3)) b.name = some b.doc := by
  have := c19_extract hdr [] [] b hh (by simpa using hw) (by simp)
  rw [List.nil_append, renderBlocks, renderBlocks, List.append_nil, renderBlock, hg] at this
  exact this

/-! ### repaired findings: full theorems -/

/-- `@dataclass  # <any comment>` -/
def decoratorLine (c : Str) : Str := ['@', 'd', 'a', 't', 'a', 'c', 'l', 'a', 's', 's', ' ', ' ', '#', ' '] ++ c
/-- `class C0:  # <any comment>` -/
def classLine (c : Str) : Str := ['c', 'l', 'a', 's', 's', ' ', 'C', '0', ':', ' ', ' ', '#', ' '] ++ c

theorem commented_header_ok (c d : Str) : headerOk [decoratorLine c, classLine d] = true := by
  have h1 : containsFieldDef (decoratorLine c) = false := by
    refine (cfd_comment (P := ['@', 'd', 'a', 't', 'a', 'c', 'l', 'a', 's', 's', ' ', ' ']) (' ' :: c) ?_).trans ?_ <;>
      decide +kernel
  have h2 : containsFieldDef (classLine d) = false := by
    refine (cfd_comment (P := ['c', 'l', 'a', 's', 's', ' ', 'C', '0', ':', ' ', ' ']) (' ' :: d) ?_).trans ?_ <;>
      decide +kernel
  rw [headerOk, List.all_cons, List.all_cons, h1, h2]
  rfl

/-- **A comment on the `class` line or on a decorator line is nobody's documentation** (was
    finding C19-header-comment, repaired): whatever the two comments say, every field — the
    first one included — gets exactly its own block's documentation. -/
theorem c19_header_comment (c d : Str) (pre post : List Block) (b : Block)
    (hw : ∀ x ∈ pre ++ b :: post, x.wf = true) (hn : ∀ x ∈ pre, x.name ≠ b.name) :
    scanLines ([decoratorLine c, classLine d] ++ renderBlocks (pre ++ b :: post)) b.name = some b.doc :=
  c19_extract _ pre post b (commented_header_ok c d) hw hn

/-- what a class contributes to the class-docstring position: its entry for exactly that name,
    whether or not it declares the field itself -/
theorem scanClass_cls (c : ClassSrc) (name : Str) (hs : c.source.isSome = true) :
    ((scanClass c name).map (·.cls)).getD [] = clsDesc c.params name := by
  unfold scanClass
  cases hcl : classLines c with
  | none =>
    unfold classLines at hcl
    cases hsrc : c.source with
    | none => rw [hsrc] at hs; cases hs
    | some x => rw [hsrc] at hcl; cases hcl
  | some ls =>
  simp only
  cases scanLines ls name with
  | some d => rfl
  | none =>
    cases h : clsDesc c.params name with
    | nil => simp
    | cons x xs => simp

/-- a class that only documents the field in its docstring contributes nothing to the three
    source-level positions (so it never hides a base class's comment or docstring) -/
theorem scanClass_undeclared (c : ClassSrc) (name : Str)
    (ls : List Str) (hl : classLines c = some ls) (h : scanLines ls name = none) :
    scanClass c name = none ∨ scanClass c name = some ⟨[], [], [], clsDesc c.params name⟩ := by
  unfold scanClass
  rw [hl]
  simp only
  rw [h]
  cases (clsDesc c.params name).isEmpty <;> simp

/-- **The class-docstring entry comes from the nearest class whose docstring has one** — for every
    MRO and every name, including subclasses that document an inherited field without
    re-declaring it (was finding C19-clsdoc-inherited, repaired).  Classes whose source cannot be
    retrieved (`make_dataclass`, REPL) contribute nothing at all, hence the hypothesis. -/
theorem c19_clsdoc (mro : List ClassSrc) (name : Str) (hs : ∀ c ∈ mro, c.source.isSome = true) :
    (attributeDoc mro name).cls = firstNonEmpty (mro.map (fun c => clsDesc c.params name)) := by
  unfold attributeDoc
  induction mro with
  | nil => rfl
  | cons c cs ih =>
    have ih := ih (List.forall_mem_cons.mp hs).2
    have hc := scanClass_cls c name (hs c List.mem_cons_self)
    rw [List.map_cons, getAttributeDocstring_cons, List.map_cons, firstNonEmpty, ← ih, ← hc]
    cases scanClass c name <;> rfl

def colorBlock : Block :=
  { above := [], gap1 := 0, name := "color".toList, tail := " str = \"#ff0000\"".toList, inline := none,
    gap2 := 0, below := .none, gap3 := 0 }
def colorBlock2 : Block :=
  { colorBlock with tail := " str = field(default='a # b', help=\"x#y\")".toList,
                    inline := some "the # real comment".toList }
attribute [lit] colorBlock colorBlock2

/-- **A `#` inside a string literal of the default value is not a comment** (was finding
    C19-hash-in-default, repaired): such blocks are well-formed, so `c19_extract`, `c19_no_leak`
    and `c19_none` cover them; the input that witnessed the finding yields no text at all. -/
theorem c19_hash_in_default (hdr : List Str) (pre post : List Block) (hh : headerOk hdr = true)
    (hw : ∀ x ∈ pre ++ colorBlock :: post, x.wf = true) (hn : ∀ x ∈ pre, x.name ≠ colorBlock.name) :
    scanLines (hdr ++ renderBlocks (pre ++ colorBlock :: post)) colorBlock.name = some Doc.empty :=
  c19_none hdr pre post colorBlock hh hw hn rfl rfl rfl

theorem colorBlocks_wf : colorBlock.wf = true ∧ colorBlock2.wf = true := by decide_lit

example : colorBlock.wf = true ∧ colorBlock2.wf = true := colorBlocks_wf
/- In the examples that instantiate a general theorem the field name is first rewritten into
   `b.name`: left to unification, `"color".toList =?= colorBlock.name` makes the kernel decode the
   literal. -/
example : scanLines (["class C0:".toList] ++ renderBlocks [colorBlock]) "color".toList = some Doc.empty := by
  rw [show "color".toList = colorBlock.name by simp only [lit]]
  exact c19_hash_in_default _ [] [] headerOk_C0 (List.forall_mem_singleton.mpr colorBlocks_wf.1)
    (List.forall_mem_nil _)
example : scanLines (["class C0:".toList] ++ renderBlocks [colorBlock2]) "color".toList
    = some ⟨[], "the # real comment".toList, [], []⟩ := by
  rw [show "color".toList = colorBlock2.name by simp only [lit]]
  exact (c19_extract _ [] [] colorBlock2 headerOk_C0 (List.forall_mem_singleton.mpr colorBlocks_wf.2)
    (List.forall_mem_nil _)).trans (by decide_lit)

theorem inlineComment_of_no_comment {l : Str} (hno : ∀ body, inlineTok l ≠ .comment body) :
    inlineComment l = [] := by
  unfold inlineComment
  split
  · rfl
  · cases ht : inlineTok l with
    | comment body => exact absurd ht (hno body)
    | _ => rfl

/-- **No comment token ⇒ no inline text** (was excluded as finding C19-multiline-hash; repaired by
    9e297b8): on every modelled definition line on which the tokenizer pass yields no comment —
    because there is none, or because it raises at an open bracket / unterminated string — the
    inline comment is empty.  No exclusion left. -/
theorem c19_inline_full (l : Str) (hm : lineModelled l = true) (hno : ∀ body, inlineTok l ≠ .comment body) :
    inlineComment l = [] :=
  inlineComment_of_no_comment hno

/-- the witness input of C19-multiline-hash: the tokenizer pass raises at the open bracket, after the `#` inside the string -/
theorem open_bracket_tok : inlineTok "    color: str = field(default=\"#fff\",".toList = .error := by decide_lit

/-- regression example: that input under the OLD rule and under the repaired one -/
example : inlineCommentOld "    color: str = field(default=\"#fff\",".toList = "fff\",".toList := by
  rw [inlineCommentOld, open_bracket_tok]
  decide_lit
example : inlineComment "    color: str = field(default=\"#fff\",".toList = [] :=
  inlineComment_of_no_comment (fun _ => by rw [open_bracket_tok]; exact InlineTok.noConfusion)
example : lineModelled "    color: str = field(default=\"#fff\",".toList = true ∧
    inlineTok "    color: str = field(default=\"#fff\",".toList = .error :=
  ⟨by rw [lineModelled, open_bracket_tok]; exact Bool.or_true _, open_bracket_tok⟩
/-- with a real comment on the opening line the comment token is found before the error -/
example : inlineComment "    color: str = field(default=\"#fff\",  # title bar".toList = "title bar".toList := by decide_lit

def baseSrc : ClassSrc :=
  { source := some "@dataclass\nclass C0:\n    a: int = 0  # side\n".toList, doc := none, params := [] }
def derivedSrc : ClassSrc :=
  { source := some "@dataclass\nclass C1(C0):\n    x: int = 0\n".toList, doc := none,
    params := [("a".toList, "the a of C1".toList)] }
attribute [lit] baseSrc derivedSrc

/-- a class without retrievable source contributes nothing, not even its docstring entry
    (docstring.py:115-124) -/
theorem c19_no_source (c : ClassSrc) (name : Str) (h : c.source = none) : scanClass c name = none := by
  simp [scanClass, classLines, h]

/-- the witness input of C19-clsdoc-inherited (repaired): `C1` documents the inherited `a` -/
example : attributeDoc [derivedSrc, baseSrc] "a".toList = ⟨[], "side".toList, [], "the a of C1".toList⟩ := by
  decide_lit

/-- the witness input of C19-header-comment (repaired): the comment of the `class` line does not reach the first field -/
example : scanLines (["@dataclass".toList, "class C0:  # about the class".toList] ++ renderBlocks [plainBlock])
    "a".toList = some Doc.empty := by
  rw [show "a".toList = plainBlock.name by simp only [lit]]
  exact c19_none _ [] [] plainBlock (by decide_lit) plainBlock_wf (List.forall_mem_nil _) rfl rfl rfl

/-! ### the hypotheses are satisfiable by non-trivial inputs -/

def exA : Block :=
  { above := ["first line".toList, "second line".toList], gap1 := 1, name := "a".toList,
    tail := " int = 0".toList, inline := some "side of a".toList, gap2 := 1,
    below := .one .dq "below a".toList, gap3 := 1 }
def exAB : Block :=
  { above := [], gap1 := 0, name := "ab".toList, tail := " str = field(default=\"x\", help=\"h\")".toList,
    inline := none, gap2 := 0, below := .multi .sq "below ab".toList ["more ab".toList], gap3 := 2 }
def exABC : Block :=
  { above := ["about abc".toList], gap1 := 0, name := "abc".toList, tail := " float = 1.5".toList,
    inline := none, gap2 := 0, below := .none, gap3 := 0 }
def exHdr : List Str := ["@dataclass(eq=True)".toList, "class C1(C0):".toList, "    \"\"\"".toList, "\"\"\"".toList]
attribute [lit] exA exAB exABC exHdr

theorem exHdr_ok : headerOk exHdr = true := by decide_lit
theorem exBlocks_wf : ∀ x ∈ [exAB] ++ exA :: [exABC], x.wf = true := by decide_lit
theorem exBlocks_names : ∀ x ∈ [exAB], x.name ≠ exA.name := by decide +kernel

example : headerOk exHdr = true := exHdr_ok
example : ∀ x ∈ [exAB] ++ exA :: [exABC], x.wf = true := exBlocks_wf
example : ∀ x ∈ [exAB], x.name ≠ exA.name := exBlocks_names
/-- prefix-related names: the scan for `a` walks over the block of `ab` and answers with `a`'s texts -/
example : scanLines (exHdr ++ renderBlocks [exAB, exA, exABC]) "a".toList
    = some ⟨"first line\nsecond line".toList, "side of a".toList, "below a".toList, []⟩ := by
  rw [show "a".toList = exA.name by simp only [lit]]
  exact (c19_extract exHdr [exAB] [exABC] exA exHdr_ok exBlocks_wf exBlocks_names).trans (by decide_lit)
example : scanLines (exHdr ++ renderBlocks [exAB, exA, exABC]) "ab".toList
    = some ⟨[], [], "below ab\nmore ab\n".toList, []⟩ := by
  rw [show "ab".toList = exAB.name by simp only [lit]]
  exact (c19_extract exHdr [] [exA, exABC] exAB exHdr_ok exBlocks_wf (List.forall_mem_nil _)).trans (by decide_lit)
example : (getAttributeDocstring [none, some ⟨[], "i1".toList, [], []⟩, some ⟨"a2".toList, "i2".toList, [], "c2".toList⟩])
    = ⟨"a2".toList, "i1".toList, [], "c2".toList⟩ := by decide_lit
example : headerOk [decoratorLine "frozen or not".toList, classLine "about the class".toList] = true :=
  commented_header_ok _ _

/-- everyday texts are inside the grammar: `:` and quotes in the inline comment, an apostrophe
    in a comment and in a docstring -/
def exText : Block :=
  { above := ["don't touch: tuned by hand".toList], gap1 := 0, name := "lr".toList,
    tail := " float = 0.5".toList, inline := some "learning rate: step = \"x\" # not this".toList, gap2 := 0,
    below := .one .dq "it's the rate: lr = 0.5".toList, gap3 := 0 }
attribute [lit] exText
theorem exText_wf : exText.wf = true := by decide_lit

example : exText.wf = true := exText_wf
example : scanLines (["class C0:".toList] ++ renderBlocks [exText]) "lr".toList = some exText.doc := by
  rw [show "lr".toList = exText.name by simp only [lit]]
  exact c19_extract _ [] [] exText headerOk_C0 (List.forall_mem_singleton.mpr exText_wf) (List.forall_mem_nil _)

/-- the hypothesis `hsrc` of `c19_class_layout` / `c19_chain` is satisfiable: a concrete class
    source WITH a class docstring splits, after the removal of `__doc__`, into header + blocks -/
def exSrc : ClassSrc :=
  { source := some "@dataclass\nclass C0:\n    \"\"\"Summary.\n\n    Args:\n        a: entry of a\n    \"\"\"\n    # first line\n    # second line\n\n    a: int = 0  # side of a\n\n    \"\"\"below a\"\"\"\n\n".toList,
    doc := some "Summary.\n\n    Args:\n        a: entry of a\n    ".toList,
    params := [("a".toList, "entry of a".toList)] }
def exLayout : ClassLayout :=
  { hdr := ["@dataclass", "class C0:", "    \"\"\"", "\"\"\""].map String.toList, blocks := [exA] }
attribute [lit] exSrc exLayout

theorem exSrc_lines : classLines exSrc = some (exLayout.hdr ++ renderBlocks exLayout.blocks) := by decide_lit
theorem exLayout_ok : exLayout.ok = true :=
  Bool.and_eq_true_iff.mpr ⟨by decide_lit, List.all_eq_true.mpr (List.forall_mem_singleton.mpr
    (exBlocks_wf exA (List.mem_append_right _ List.mem_cons_self)))⟩

set_option maxRecDepth 8000 in
example : classLines exSrc = some (exLayout.hdr ++ renderBlocks exLayout.blocks) := exSrc_lines
example : exLayout.ok = true := exLayout_ok
set_option maxRecDepth 8000 in
example : scanClass exSrc "a".toList
    = some ⟨"first line\nsecond line".toList, "side of a".toList, "below a".toList, "entry of a".toList⟩ := by
  rw [c19_class_layout exSrc exLayout _ exSrc_lines exLayout_ok,
    show exSrc.params = [("a".toList, "entry of a".toList)] from rfl]
  decide_lit

end SpVerif.C19
