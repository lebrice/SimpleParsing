/-
  C06 — value sources are layered: definition < default instance / set_defaults < constructor config files (in
  order) < `--config_path` files (in order) < explicit command-line options; sources are merged leaf by leaf; a
  key that names no field of its dataclass section is an error.

  Statements are about the executable model `SpVerif.Model.Layers`.  A *source* is a dict (a file's content, the
  keywords of a `set_defaults` call); it "contains" a leaf path when following the path through nested dicts
  succeeds, and "mentions" it when the value found is not `null`.  The code cannot distinguish an explicit `null`
  from "set to None": the slot of a field is simply overwritten by every source that contains the path
  (`slot_setF`), so a later `null` *erases* what earlier sources set.  The full statement (null = not
  mentioned) is therefore refuted by `c06_priority_full_witness`; `c06_priority_partial` proves it under the named
  exclusion `NoNullAt` (no source holds an explicit null at that leaf).
-/
import SpVerif.Model.Layers
import SpVerif.Lemmas.Layers
namespace SpVerif.C06
open SpVerif SpVerif.Layers

/-! ### `dict_union` algebra (utils.py:841-885) -/

theorem norm_of_not_dict {y : J} (h : y.isDict = false) : norm y = y := by
  cases y <;> first | rfl | cases h

/-- `new_value` is the last non-dict value -/
theorem mergeVal_of_not_dict (x : J) {y : J} (h : y.isDict = false) : mergeVal x y = y := by
  cases y <;> first | (cases x <;> rfl) | cases h

/-- right-biased at leaves: a non-dict value of the later dict wins -/
theorem c06_union_right_biased (xs ys : Dict) (k : Str) (y : J)
    (hy : dget ys k = some y) (hnd : y.isDict = false) : dget (unionD xs ys) k = some y := by
  rw [dget_unionD, hy]
  cases dget xs k with
  | none => exact congrArg some (norm_of_not_dict hnd)
  | some x => exact congrArg some (mergeVal_of_not_dict x hnd)

example : dget (unionD [(['a'], .int 1), (['b'], .int 2)] [(['a'], .int 5)]) ['a'] = some (.int 5) := by
  apply c06_union_right_biased <;> rfl

/-- a key only the earlier dict has keeps its (re-sorted) value -/
theorem c06_union_keeps_left (xs ys : Dict) (k : Str) (hy : dget ys k = none) :
    dget (unionD xs ys) k = (dget xs k).map norm := by
  rw [dget_unionD, hy]; cases dget xs k <;> rfl

/-- recursive on dicts: two dict values at one key are united -/
theorem c06_union_recursive (xs ys : Dict) (k : Str) (a b : Dict)
    (hx : dget xs k = some (.dict a)) (hy : dget ys k = some (.dict b)) :
    dget (unionD xs ys) k = some (.dict (unionD a b)) := by
  rw [dget_unionD, hx, hy]; rfl

/-- the code's quirk, kept visible: an earlier scalar is *not* replaced by a later dict -/
theorem c06_union_scalar_survives_dict (xs ys : Dict) (k : Str) (x : J) (b : Dict)
    (hx : dget xs k = some x) (hnd : x.isDict = false) (hy : dget ys k = some (.dict b)) :
    dget (unionD xs ys) k = some x := by
  rw [dget_unionD, hx, hy]; cases x <;> first | rfl | cases hnd

theorem mergeL_nil (xs : Dict) : mergeL xs [] = normL xs := by
  induction xs with
  | nil => rfl
  | cons e r ih => rw [mergeL, normL, ih]; rfl

/-- a file that goes through `dict_union(file, {})` keeps every path (values are re-sorted copies) -/
theorem c06_union_empty_paths (xs : Dict) (p : List Str) :
    getPath p (.dict (unionD xs [])) = (getPath p (.dict xs)).map norm := by
  have h : J.dict (unionD xs []) = norm (.dict xs) := by
    rw [unionD, mergeL_nil, norm, List.filter_nil, normL, List.append_nil]
  rw [h, getPath_norm]

/-- running example: `class A: a: int = 1; s: S` with `class S: b: int = 2`, registered at dest `c`;
    sources `srcA1 = {a: 5, s: {b: 6}}`, `srcA2 = {a: 7}` -/
def clsA : WT := .leaf ['a'] (some (.int 1)) .null (.nested ['s'] none (.leaf ['b'] (some (.int 2)) .null .nil) .nil)
def regA : RegIn := { dest := ['c'], cls := clsA, instKw := none }
def srcA1 : Dict := [(['a'], .int 5), (['s'], .dict [(['b'], .int 6)])]
def srcA2 : Dict := [(['a'], .int 7)]
/-- `clsA` after `srcA1`, `srcA2` -/
def clsA12 : WT := .leaf ['a'] (some (.int 1)) (.int 7) (.nested ['s'] none (.leaf ['b'] (some (.int 2)) (.int 6) .nil) .nil)

/-- a key of the section that names no field (and is not `_type_`) makes `set_default` raise `RuntimeError`
    (unless a nested section already raised) -/
theorem c06_unknown_key_raises (wt : WT) (d : Dict) (hu : unknownKeys wt d = true) :
    (∃ e, setDefault wt d = .error e) ∧
    (∀ w, setFields wt d = .ok w → setDefault wt d = .error (.raise .runtimeError)) := by
  unfold setDefault
  cases setFields wt d with
  | error e => exact ⟨⟨e, rfl⟩, nofun⟩
  | ok w => rw [hu]; exact ⟨⟨_, rfl⟩, fun _ _ => rfl⟩

example : unknownKeys (.leaf ['a'] none .null .nil) [(['a'], .int 1), (['z', 'z'], .int 2)] = true := by decide +kernel

/-- an unknown key at any depth below the section -/
def nestedUnknown : WT → Dict → Bool
  | .nil, _ => false
  | .leaf _ _ _ rest, d => nestedUnknown rest d
  | .nested n _ sub rest, d =>
    (match dget d n with
     | some (.dict d') => unknownKeys sub d' || nestedUnknown sub d'
     | _ => false) || nestedUnknown rest d

/-- a nested section given a scalar (not a dict, not None) at any depth: `dataclasses.asdict` → `TypeError` -/
def scalarNested : WT → Dict → Bool
  | .nil, _ => false
  | .leaf _ _ _ rest, d => scalarNested rest d
  | .nested n _ sub rest, d =>
    (match dget d n with
     | none => false
     | some .null => false
     | some (.dict d') => scalarNested sub d'
     | some _ => true) || scalarNested rest d

/-- a source the wrapper accepts: no key that names no field (at any depth), no scalar where a section is expected -/
def goodSrc (wt : WT) (d : Dict) : Bool := !unknownKeys wt d && !nestedUnknown wt d && !scalarNested wt d

theorem setFields_inv {wt : WT} {d : Dict} {w : WT} (h : setFields wt d = .ok w) :
    w = setF wt d ∧ nestedUnknown wt d = false := by
  fun_induction setFields wt d generalizing w with
  | case1 => cases h; exact ⟨rfl, rfl⟩
  -- the branches that return an error
  | case2 | case5 | case7 | case9 | case10 | case11 | case13 => cases h
  -- a leaf: absent from `d`, or given a value
  | case3 _ _ _ _ _ _ hr hd ih | case4 _ _ _ _ _ _ hr _ hd ih =>
    cases h
    obtain ⟨rfl, hn⟩ := ih hr
    rw [setF, hd]
    exact ⟨rfl, hn⟩
  -- a nested field: absent from `d`, or given `null`
  | case6 _ _ _ _ _ hd _ hr ih | case8 _ _ _ _ _ hd _ hr ih =>
    cases h
    obtain ⟨rfl, hn⟩ := ih hr
    rw [setF, nestedUnknown, hd, hn]
    exact ⟨rfl, rfl⟩
  -- a nested field given a section without unknown keys
  | case12 _ _ _ _ _ _ hd _ hs hu _ hr ihs ihr =>
    cases h
    obtain ⟨rfl, hns⟩ := ihs hs
    obtain ⟨rfl, hnr⟩ := ihr hr
    rw [setF, nestedUnknown, hd, hnr]
    dsimp only
    rw [hns, Bool.eq_false_iff.mpr hu]
    exact ⟨rfl, rfl⟩

theorem setDefault_inv {wt : WT} {d : Dict} {w : WT} (h : setDefault wt d = .ok w) :
    w = setF wt d ∧ unknownKeys wt d = false ∧ nestedUnknown wt d = false := by
  rw [setDefault] at h
  split at h
  · cases h
  next w' hs =>
    split at h
    · cases h
    next hu =>
      cases h
      exact ⟨(setFields_inv hs).1, Bool.eq_false_iff.mpr hu, (setFields_inv hs).2⟩

/-- **unknown key at any depth ⇒ error, never silently dropped** -/
theorem c06_unknown_key_any_depth (wt : WT) (d : Dict)
    (h : unknownKeys wt d = true ∨ nestedUnknown wt d = true) : ∀ w, setDefault wt d ≠ .ok w := by
  intro w hw
  obtain ⟨_, hu, hn⟩ := setDefault_inv hw
  rw [hu, hn] at h
  cases h <;> contradiction

example : nestedUnknown (.nested ['s'] none (.leaf ['b'] none .null .nil) .nil)
    [(['s'], .dict [(['b'], .int 1), (['q'], .int 2)])] = true := by decide +kernel

/-- non-vacuous, nested arm: `{s: {b: 1, q: 2}}` on `clsA` — `q` names no field of `S` — cannot succeed -/
example : ∀ w, setDefault clsA [(['s'], .dict [(['b'], .int 1), (['q'], .int 2)])] ≠ .ok w :=
  c06_unknown_key_any_depth clsA _ (Or.inr (by decide +kernel))

theorem setFields_of_good {wt : WT} {d : Dict} (hu : nestedUnknown wt d = false) (hs : scalarNested wt d = false) :
    setFields wt d = .ok (setF wt d) := by
  induction wt generalizing d with
  | nil => rfl
  | leaf n df m rest ih =>
    rw [setFields, ih hu hs, setF]
    cases dget d n <;> rfl
  | nested n fac sub rest ihs ihr =>
    rw [nestedUnknown, Bool.or_eq_false_iff] at hu
    rw [scalarNested, Bool.or_eq_false_iff] at hs
    rw [setFields, setF, ihr hu.2 hs.2]
    revert hu hs
    cases dget d n with
    | none => intros; rfl
    | some v =>
      cases v with
      | null => intros; rfl
      | dict d' =>
        intro hu hs
        rw [Bool.or_eq_false_iff] at hu
        dsimp only
        rw [ihs hu.1.2 hs.1, hu.1.1]
        rfl
      | _ => intro _ hs; cases hs.1

/-- **`set_default` succeeds** on every well-formed source -/
theorem setDefault_of_good {wt : WT} {d : Dict} (h : goodSrc wt d = true) : setDefault wt d = .ok (setF wt d) := by
  simp only [goodSrc, Bool.and_eq_true, Bool.not_eq_true'] at h
  rw [setDefault, setFields_of_good h.1.2 h.2, h.1.1]
  rfl

/-! ### one wrapper, a list of sources applied in order -/

/-- successive `wrapper.set_default(d)` calls -/
def applySrcs : WT → List Dict → Out WT
  | wt, [] => .ok wt
  | wt, d :: ds =>
    match setDefault wt d with
    | .error e => .error e
    | .ok wt' => applySrcs wt' ds

/-- the slot of the leaf at `p` after the sources `ds`, starting from `m`: every source that contains the path
    overwrites it -/
def foldAssign (p : List Str) : List Dict → J → J
  | [], m => m
  | d :: ds, m => foldAssign p ds (assign (getPath p (.dict d)) m)

theorem unknownKeys_upd {wt w : WT} (h : Upd wt w) (d : Dict) : unknownKeys w d = unknownKeys wt d := by
  rw [unknownKeys, names_upd h]; rfl

theorem nestedUnknown_upd {wt w : WT} (h : Upd wt w) : ∀ d, nestedUnknown w d = nestedUnknown wt d := by
  induction h with
  | nil => intro d; rfl
  | leaf _ ih => exact ih
  | @nested n _ _ _ _ _ hs _ ih1 ih2 =>
    intro d
    rw [nestedUnknown, nestedUnknown, ih2]
    cases dget d n with
    | none => rfl
    | some v => cases v <;> first | rfl | (dsimp only; rw [unknownKeys_upd hs, ih1])

theorem scalarNested_upd {wt w : WT} (h : Upd wt w) : ∀ d, scalarNested w d = scalarNested wt d := by
  induction h with
  | nil => intro d; rfl
  | leaf _ ih => exact ih
  | @nested n _ _ _ _ _ _ _ ih1 ih2 =>
    intro d
    rw [scalarNested, scalarNested, ih2]
    cases dget d n with
    | none => rfl
    | some v => cases v <;> first | rfl | (dsimp only; rw [ih1])

theorem goodSrc_upd {wt w : WT} (h : Upd wt w) (d : Dict) : goodSrc w d = goodSrc wt d := by
  rw [goodSrc, goodSrc, unknownKeys_upd h, nestedUnknown_upd h, scalarNested_upd h]

theorem upd_foldl (ds : List Dict) (wt : WT) : Upd wt (ds.foldl setF wt) := by
  induction ds generalizing wt with
  | nil => exact upd_refl wt
  | cons d ds ih => exact upd_trans (upd_setF wt d) (ih _)

theorem applySrcs_inv {ds : List Dict} {wt w : WT} (h : applySrcs wt ds = .ok w) :
    w = ds.foldl setF wt ∧ ∀ d ∈ ds, unknownKeys wt d = false ∧ nestedUnknown wt d = false := by
  fun_induction applySrcs wt ds with
  | case1 => cases h; exact ⟨rfl, nofun⟩
  | case2 => cases h
  | case3 wt d ds w1 hs ih =>
    obtain ⟨rfl, hd⟩ := setDefault_inv hs
    obtain ⟨rfl, hds⟩ := ih h
    refine ⟨rfl, fun d' hd' => ?_⟩
    rcases List.mem_cons.mp hd' with rfl | hd'
    · exact hd
    · rw [← unknownKeys_upd (upd_setF wt d), ← nestedUnknown_upd (upd_setF wt d)]; exact hds d' hd'

theorem applySrcs_of_good {ds : List Dict} {wt : WT} (h : ∀ d ∈ ds, goodSrc wt d = true) :
    applySrcs wt ds = .ok (ds.foldl setF wt) := by
  induction ds generalizing wt with
  | nil => rfl
  | cons d ds ih =>
    rw [applySrcs, setDefault_of_good (h d (List.mem_cons_self ..))]
    exact ih fun d' hd' => by rw [goodSrc_upd (upd_setF wt d)]; exact h d' (List.mem_cons_of_mem _ hd')

theorem slot_foldl {wt : WT} {p : List Str} {m : J} (h : Slot wt p m) (ds : List Dict) :
    Slot (ds.foldl setF wt) p (foldAssign p ds m) := by
  induction ds generalizing wt m with
  | nil => exact h
  | cons d ds ih => exact ih (slot_setF h d)

/-- **leafwise merging, any number of sources**: the slot of a leaf after a list of sources -/
theorem c06_slot_after_sources {ds : List Dict} {wt wt' : WT} {p : List Str} {m : J}
    (h : applySrcs wt ds = .ok wt') (hp : slotAt wt p = some m) : slotAt wt' p = some (foldAssign p ds m) := by
  rw [(applySrcs_inv h).1]
  exact slotAt_of_slot (slot_foldl (slot_of_slotAt hp) ds)

theorem applySrcs_append {a b : List Dict} {wt w1 w2 : WT}
    (h1 : applySrcs wt a = .ok w1) (h2 : applySrcs w1 b = .ok w2) : applySrcs wt (a ++ b) = .ok w2 := by
  fun_induction applySrcs wt a with
  | case1 => cases h1; exact h2
  | case2 => cases h1
  | case3 wt d ds w hs ih => rw [List.cons_append, applySrcs, hs]; exact ih h1

/-- the running example, evaluated once -/
theorem applySrcs_clsA : applySrcs clsA [srcA1, srcA2] = .ok clsA12 := rfl

/-- non-vacuous: the nested leaf `s.b` after `srcA1`, `srcA2` holds 6 (the second source does not contain it) -/
example : slotAt clsA12 [['s'], ['b']] = some (.int 6) :=
  c06_slot_after_sources (m := .null) applySrcs_clsA (by decide +kernel)

theorem foldAssign_eq (p : List Str) (ds : List Dict) (m : J) :
    foldAssign p ds m = foldOpt (fun d => getPath p (.dict d)) ds m := by
  induction ds generalizing m with
  | nil => rfl
  | cons d ds ih => exact ih _

/-- every leaf gets a value: its `pick` (command line, else slot, else instance attribute / definition) is not None -/
def allPicked : WT → Option Dict → Dict → Bool
  | .nil, _, _ => true
  | .leaf n df m rest, ctx, cmd =>
    !(pick (dget cmd n) m (leafBase n df ctx)).isNull && allPicked rest ctx cmd
  | .nested n fac sub rest, ctx, cmd =>
    allPicked sub (childCtx n fac sub ctx) (sectionOf (dget cmd n)) && allPicked rest ctx cmd

/-- what a successful `resolve` returns -/
def resolved : WT → Option Dict → Dict → Dict
  | .nil, _, _ => []
  | .leaf n df m rest, ctx, cmd => (n, pick (dget cmd n) m (leafBase n df ctx)) :: resolved rest ctx cmd
  | .nested n fac sub rest, ctx, cmd =>
    (n, .dict (resolved sub (childCtx n fac sub ctx) (sectionOf (dget cmd n)))) :: resolved rest ctx cmd

theorem resolve_eq (wt : WT) (ctx : Option Dict) (cmd : Dict) :
    resolve wt ctx cmd = if allPicked wt ctx cmd then .ok (resolved wt ctx cmd) else .error .exit2 := by
  induction wt generalizing ctx cmd with
  | nil => rfl
  | leaf n df m rest ih =>
    rw [resolve_leaf, ih, allPicked, resolved]
    cases (pick (dget cmd n) m (leafBase n df ctx)).isNull <;> cases allPicked rest ctx cmd <;> rfl
  | nested n fac sub rest ihs ihr =>
    rw [resolve, ihs, ihr, allPicked, resolved]
    cases allPicked sub (childCtx n fac sub ctx) (sectionOf (dget cmd n)) <;> cases allPicked rest ctx cmd <;> rfl

theorem resolve_inv {wt : WT} {ctx : Option Dict} {cmd out : Dict} (h : resolve wt ctx cmd = .ok out) :
    allPicked wt ctx cmd = true ∧ out = resolved wt ctx cmd := by
  rw [resolve_eq] at h
  split at h
  next ha => cases h; exact ⟨ha, rfl⟩
  · cases h

/-- **resolution of one leaf**: `resolved` holds, at every leaf path, the command-line value, else the slot, else
    the instance attribute / definition default — and where `resolve` succeeds that value is not None -/
theorem slot_resolved {wt : WT} {p : List Str} {m : J} (h : Slot wt p m) (ctx : Option Dict) (cmd : Dict) :
    ∃ b, baseAt wt ctx p = some b ∧
      getPath p (.dict (resolved wt ctx cmd)) = some (pick (getPath p (.dict cmd)) m b) ∧
      (allPicked wt ctx cmd = true → (pick (getPath p (.dict cmd)) m b).isNull = false) := by
  induction h generalizing ctx cmd with
  | @here n df m rest =>
    rw [baseAt_leaf, if_pos rfl, if_pos rfl, resolved, getPath_singleton, getPath_singleton, dget_cons, if_pos rfl,
      allPicked, Bool.and_eq_true, Bool.not_eq_true']
    exact ⟨_, rfl, rfl, And.left⟩
  | leafNext hk _ ih =>
    rw [baseAt_leaf, if_neg hk, resolved, getPath_cons_ne hk, allPicked, Bool.and_eq_true]
    obtain ⟨b, hb, hg, hn⟩ := ih ctx cmd
    exact ⟨b, hb, hg, fun ha => hn ha.2⟩
  | @down n fac sub rest k q m _ ih =>
    rw [baseAt, if_pos rfl, resolved, getPath_cons_self, getPath_sectionOf, allPicked, Bool.and_eq_true]
    obtain ⟨b, hb, hg, hn⟩ := ih (childCtx n fac sub ctx) (sectionOf (dget cmd n))
    exact ⟨b, hb, hg, fun ha => hn ha.1⟩
  | nestedNext hk _ ih =>
    rw [baseAt, if_neg hk, resolved, getPath_cons_ne hk, allPicked, Bool.and_eq_true]
    obtain ⟨b, hb, hg, hn⟩ := ih ctx cmd
    exact ⟨b, hb, hg, fun ha => hn ha.2⟩

/-- **central theorem (one registration)**: after any list of sources and the final resolution, every leaf holds
    the command-line value if one was given, else the value of the last source containing its path if that is not
    None, else the attribute of the default instance its wrapper sees, else its definition default. -/
theorem c06_priority_general (wt wt' : WT) (ds : List Dict) (ctx : Option Dict) (cmd out : Dict)
    (p : List Str) (m : J)
    (hsrc : applySrcs wt ds = .ok wt') (hres : resolve wt' ctx cmd = .ok out) (hp : slotAt wt p = some m) :
    ∃ b, baseAt wt ctx p = some b ∧
      getPath p (.dict out) = some (pick (getPath p (.dict cmd)) (foldAssign p ds m) b) ∧
      (pick (getPath p (.dict cmd)) (foldAssign p ds m) b).isNull = false := by
  obtain ⟨rfl, _⟩ := applySrcs_inv hsrc
  obtain ⟨ha, rfl⟩ := resolve_inv hres
  obtain ⟨b, hb, hg, hn⟩ := slot_resolved (slot_foldl (slot_of_slotAt hp) ds) ctx cmd
  exact ⟨b, baseAt_upd (upd_foldl ds wt) ctx p ▸ hb, hg, hn ha⟩

/-- non-vacuous: sources `srcA1`, `srcA2`, command line `--s.b 9`: `a = 7` (last source), `s.b = 9` (command line) -/
example : ∃ b, baseAt clsA none [['a']] = some b ∧
    getPath [['a']] (.dict [(['a'], .int 7), (['s'], .dict [(['b'], .int 9)])]) =
      some (pick (getPath [['a']] (.dict [(['s'], .dict [(['b'], .int 9)])])) (foldAssign [['a']] [srcA1, srcA2] .null) b) ∧
    (pick (getPath [['a']] (.dict [(['s'], .dict [(['b'], .int 9)])])) (foldAssign [['a']] [srcA1, srcA2] .null) b).isNull = false :=
  c06_priority_general clsA clsA12 [srcA1, srcA2] none [(['s'], .dict [(['b'], .int 9)])] _ [['a']] .null applySrcs_clsA
    (eq_ok_of_toOption (by decide +kernel)) (by decide +kernel)

/-- a source *mentions* a leaf: it assigns a non-None value -/
def Mentions (p : List Str) (s : Dict) (v : J) : Prop := getPath p (.dict s) = some v ∧ v.isNull = false

/-- the named (decidable) exclusion: no source holds an explicit `null` at the leaf -/
def NoNullAt (p : List Str) (ds : List Dict) : Prop :=
  ds.all (fun t => match getPath p (.dict t) with
    | some v => !v.isNull
    | none => true) = true

instance (p : List Str) (ds : List Dict) : Decidable (NoNullAt p ds) := by unfold NoNullAt; infer_instance

theorem noNullAt_elim {p : List Str} {ds : List Dict} (h : NoNullAt p ds) :
    ∀ t ∈ ds, ∀ v, getPath p (.dict t) = some v → v.isNull = false := by
  intro t ht v hv
  have := List.all_eq_true.mp h t ht
  rw [hv, Bool.not_eq_true'] at this
  exact this

/-- the full statement: the leaf ends up with the value of the highest-priority source that mentions it, where an
    explicit `null` counts as *not* mentioning -/
def PriorityFull : Prop :=
  ∀ (wt wt' : WT) (pre post : List Dict) (s : Dict) (ctx : Option Dict) (out : Dict) (p : List Str) (m v : J),
    applySrcs wt (pre ++ s :: post) = .ok wt' → resolve wt' ctx [] = .ok out → slotAt wt p = some m →
    Mentions p s v → (∀ t ∈ post, ¬ ∃ w, Mentions p t w) →
    getPath p (.dict out) = some v

/-- **witness (open finding C06-null-erases)**: class `a: int = 1`, sources `{a: 5}` then `{a: null}`: the later
    null does not mention `a`, yet the result is the definition default 1, not 5. -/
theorem c06_priority_full_witness : ¬ PriorityFull := by
  intro h
  have := h (.leaf ['a'] (some (.int 1)) .null .nil) (.leaf ['a'] (some (.int 1)) .null .nil)
    [] [[(['a'], .null)]] [(['a'], .int 5)] none [(['a'], .int 1)] [['a']] .null (.int 5)
    rfl rfl rfl ⟨rfl, rfl⟩ (by
      intro t ht
      cases List.mem_singleton.mp ht
      rintro ⟨w, hw1, hw2⟩
      cases hw1; cases hw2)
  cases this

/-- **per-leaf priority, config files / set_defaults** (partial: `NoNullAt`): the last source that mentions the
    leaf wins over every earlier source, the default instance and the definition, when no command-line value is
    given -/
theorem c06_priority_partial (wt wt' : WT) (pre post : List Dict) (s : Dict) (ctx : Option Dict) (cmd out : Dict)
    (p : List Str) (m v : J)
    (hsrc : applySrcs wt (pre ++ s :: post) = .ok wt') (hres : resolve wt' ctx cmd = .ok out)
    (hp : slotAt wt p = some m) (hcmd : getPath p (.dict cmd) = none)
    (hs : Mentions p s v) (hpost : ∀ t ∈ post, ¬ ∃ w, Mentions p t w) (hnn : NoNullAt p post) :
    getPath p (.dict out) = some v := by
  obtain ⟨b, _, hg, _⟩ := c06_priority_general wt wt' _ ctx cmd out p m hsrc hres hp
  have hpost' : ∀ t ∈ post, getPath p (.dict t) = none := by
    intro t ht
    cases hv : getPath p (.dict t) with
    | none => rfl
    | some w => exact absurd ⟨w, hv, noNullAt_elim hnn t ht w hv⟩ (hpost t ht)
  rw [hg, hcmd, foldAssign_eq, foldOpt_last s hs.1 hpost', pick, hs.2]
  rfl

/-- the hypotheses are satisfiable: class `a: int = 1`, sources `{a: 5}`, `{a: 7}`, `{}` -/
example : getPath [['a']] (.dict [(['a'], .int 7)]) = some (.int 7) :=
  c06_priority_partial (.leaf ['a'] (some (.int 1)) .null .nil) (.leaf ['a'] (some (.int 1)) (.int 7) .nil)
    [[(['a'], .int 5)]] [[]] [(['a'], .int 7)] none [] _ [['a']] .null (.int 7) rfl (eq_ok_of_toOption (by decide +kernel)) (by decide +kernel) (by decide +kernel) ⟨by decide +kernel, rfl⟩
    (by intro t ht; cases List.mem_singleton.mp ht; rintro ⟨w, h1, _⟩; cases h1) (by decide +kernel)

example : NoNullAt [['s', 'u', 'b'], ['b']] [[(['s', 'u', 'b'], .dict [(['b'], .int 7)])], [(['a'], .int 3)]] := by decide +kernel

/-- **the command line wins** over every file, default and definition -/
theorem c06_cmdline_wins (wt wt' : WT) (ds : List Dict) (ctx : Option Dict) (cmd out : Dict) (p : List Str) (m v : J)
    (hsrc : applySrcs wt ds = .ok wt') (hres : resolve wt' ctx cmd = .ok out)
    (hp : slotAt wt p = some m) (hcmd : getPath p (.dict cmd) = some v) :
    getPath p (.dict out) = some v := by
  obtain ⟨b, _, hg, _⟩ := c06_priority_general wt wt' ds ctx cmd out p m hsrc hres hp
  rw [hg, hcmd]; rfl

example : getPath [['s'], ['b']] (.dict [(['a'], .int 7), (['s'], .dict [(['b'], .int 9)])]) = some (.int 9) :=
  c06_cmdline_wins clsA clsA12 [srcA1, srcA2] none [(['s'], .dict [(['b'], .int 9)])] _ [['s'], ['b']] .null (.int 9)
    applySrcs_clsA (eq_ok_of_toOption (by decide +kernel)) (by decide +kernel) (by decide +kernel)

/-- **leafwise merging**: a source that does not contain a leaf (it may set any of its siblings) has no influence
    on that leaf — the result there is what the remaining sources, the default instance and the definition give -/
theorem c06_leafwise (wt w1 w2 : WT) (pre post : List Dict) (s : Dict) (ctx : Option Dict) (cmd o1 o2 : Dict)
    (p : List Str) (m : J)
    (h1 : applySrcs wt (pre ++ s :: post) = .ok w1) (r1 : resolve w1 ctx cmd = .ok o1)
    (h2 : applySrcs wt (pre ++ post) = .ok w2) (r2 : resolve w2 ctx cmd = .ok o2)
    (hp : slotAt wt p = some m) (hs : getPath p (.dict s) = none) :
    getPath p (.dict o1) = getPath p (.dict o2) := by
  obtain ⟨b1, hb1, hg1, _⟩ := c06_priority_general wt w1 _ ctx cmd o1 p m h1 r1 hp
  obtain ⟨b2, hb2, hg2, _⟩ := c06_priority_general wt w2 _ ctx cmd o2 p m h2 r2 hp
  cases hb1.symm.trans hb2
  rw [hg1, hg2, foldAssign_eq, foldAssign_eq, foldOpt_skip s hs]

/-- non-vacuous: `srcA2 = {a: 7}` does not contain `s.b`; with or without it `s.b = 6` -/
example : getPath [['s'], ['b']] (.dict [(['a'], .int 7), (['s'], .dict [(['b'], .int 6)])]) =
    getPath [['s'], ['b']] (.dict [(['a'], .int 5), (['s'], .dict [(['b'], .int 6)])]) :=
  c06_leafwise clsA clsA12 (.leaf ['a'] (some (.int 1)) (.int 5) (.nested ['s'] none (.leaf ['b'] (some (.int 2)) (.int 6) .nil) .nil))
    [srcA1] [] srcA2 none [] _ _ [['s'], ['b']] .null applySrcs_clsA (eq_ok_of_toOption (by decide +kernel)) rfl (eq_ok_of_toOption (by decide +kernel)) (by decide +kernel) (by decide +kernel)

/-- **lowest layers**: a leaf no source contains and the command line does not give keeps what it had before the
    sources were applied: its slot if that is not None — after `add_arguments(default=inst)` the slot already holds the
    instance's attribute (`slotAt_initInst`), after `set_defaults(**kw)` the keyword value — and otherwise the attribute
    of the default instance its wrapper sees, else the definition default -/
theorem c06_falls_to_default (wt wt' : WT) (ds : List Dict) (ctx : Option Dict) (cmd out : Dict) (p : List Str) (m : J)
    (hsrc : applySrcs wt ds = .ok wt') (hres : resolve wt' ctx cmd = .ok out)
    (hp : slotAt wt p = some m) (hcmd : getPath p (.dict cmd) = none)
    (hds : ∀ t ∈ ds, getPath p (.dict t) = none) :
    ∃ b, baseAt wt ctx p = some b ∧ getPath p (.dict out) = some (if m.isNull then b else m) := by
  obtain ⟨b, hb, hg, _⟩ := c06_priority_general wt wt' ds ctx cmd out p m hsrc hres hp
  refine ⟨b, hb, ?_⟩
  rw [hg, hcmd, foldAssign_eq, foldOpt_none hds, pick]
  cases m.isNull <;> rfl

/-- non-vacuous: no source mentions `s.b`, the slot is empty: the definition default 2 -/
example : ∃ b, baseAt clsA none [['s'], ['b']] = some b ∧
    getPath [['s'], ['b']] (.dict [(['a'], .int 7), (['s'], .dict [(['b'], .int 2)])]) = some (if J.null.isNull then b else .null) :=
  c06_falls_to_default clsA (.leaf ['a'] (some (.int 1)) (.int 7) (.nested ['s'] none (.leaf ['b'] (some (.int 2)) .null .nil) .nil))
    [srcA2] none [] _ [['s'], ['b']] .null rfl (eq_ok_of_toOption (by decide +kernel)) (by decide +kernel) (by decide +kernel)
    (by intro t ht; cases List.mem_singleton.mp ht; decide +kernel)

theorem slot_initInst {cls : WT} {p : List Str} {m v : J} (h : Slot cls p m) {i : Dict}
    (hv : getPath p (.dict i) = some v) : Slot (initInst cls i) p v := by
  induction h generalizing i with
  | here => rw [getPath_singleton] at hv; rw [initInst, hv]; exact .here
  | leafNext hk _ ih => exact .leafNext hk (ih hv)
  | nestedNext hk _ ih => exact .nestedNext hk (ih hv)
  | @down n _ _ _ _ _ _ _ ih =>
    rw [getPath_cons] at hv
    rw [initInst]
    revert hv
    cases dget i n with
    | none => nofun
    | some x => cases x with
      | dict d => exact fun hv => .down (ih hv)
      | _ => nofun

/-- `DataclassWrapper.__init__` with a default instance: the slot of every leaf the instance has becomes the
    instance's attribute — the default-instance layer enters the theorems above as this initial slot -/
theorem slotAt_initInst : ∀ (cls : WT) (i : Dict) (p : List Str) (m v : J),
    slotAt cls p = some m → getPath p (.dict i) = some v → slotAt (initInst cls i) p = some v :=
  fun _ _ _ _ _ hp hv => slotAt_of_slot (slot_initInst (slot_of_slotAt hp) hv)

example : slotAt (initInst clsA [(['a'], .int 10), (['s'], .dict [(['b'], .int 11)])]) [['s'], ['b']] = some (.int 11) :=
  slotAt_initInst clsA _ [['s'], ['b']] .null (.int 11) (by decide +kernel) (by decide +kernel)

/-! ### totality: a well-formed scenario *does* return a result -/

/-- **totality + priority**: when every source is well-formed and every leaf ends up with some value, the wrapper
    pipeline returns a result, and that result holds the priority value at every leaf -/
theorem c06_total (wt : WT) (ds : List Dict) (ctx : Option Dict) (cmd : Dict)
    (hgood : ∀ d ∈ ds, goodSrc wt d = true)
    (hpick : ∀ w, applySrcs wt ds = .ok w → allPicked w ctx cmd = true) :
    ∃ w out, applySrcs wt ds = .ok w ∧ resolve w ctx cmd = .ok out ∧
      ∀ p m, slotAt wt p = some m → ∃ b, baseAt wt ctx p = some b ∧
        getPath p (.dict out) = some (pick (getPath p (.dict cmd)) (foldAssign p ds m) b) := by
  have hw := applySrcs_of_good hgood
  have ho : resolve (ds.foldl setF wt) ctx cmd = .ok (resolved (ds.foldl setF wt) ctx cmd) := by
    rw [resolve_eq, hpick _ hw]; rfl
  refine ⟨_, _, hw, ho, fun p m hp => ?_⟩
  obtain ⟨b, hb, hg, _⟩ := c06_priority_general wt _ ds ctx cmd _ p m hw ho hp
  exact ⟨b, hb, hg⟩

/-- a condition on the *class and command line alone* that makes every leaf end up with a value whatever the sources
    do: each leaf has a definition default / instance attribute, and no command-line value is None -/
def allBased : WT → Option Dict → Dict → Bool
  | .nil, _, _ => true
  | .leaf n df _ rest, ctx, cmd =>
    (match dget cmd n with
     | some v => !v.isNull
     | none => !(leafBase n df ctx).isNull) && allBased rest ctx cmd
  | .nested n fac sub rest, ctx, cmd =>
    allBased sub (childCtx n fac sub ctx) (sectionOf (dget cmd n)) && allBased rest ctx cmd

theorem allPicked_of_allBased {wt w : WT} (h : Upd wt w) : ∀ ctx cmd, allBased wt ctx cmd = true → allPicked w ctx cmd = true := by
  induction h with
  | nil => intro ctx cmd _; rfl
  | @leaf n df m m' rest rest' _ ih =>
    intro ctx cmd hb
    rw [allBased, Bool.and_eq_true] at hb
    rw [allPicked, Bool.and_eq_true]
    refine ⟨?_, ih ctx cmd hb.2⟩
    have h1 := hb.1
    revert h1
    cases dget cmd n with
    | some v => exact id
    | none =>
      -- no command-line value: the slot if it is set, and the (non-None) fallback otherwise
      intro h1
      rw [pick]
      cases hm : m'.isNull with
      | false => rw [Bool.not_false, if_pos rfl, hm]; rfl
      | true => exact h1
  | nested hs _ ih1 ih2 =>
    intro ctx cmd hb
    rw [allBased, Bool.and_eq_true] at hb
    rw [allPicked, Bool.and_eq_true, childCtx_upd hs]
    exact ⟨ih1 _ _ hb.1, ih2 _ _ hb.2⟩

/-- **corollary**: a class whose every leaf has a definition default (or a default instance), well-formed sources, a
    command line without None ⇒ the pipeline returns `.ok` with the priority value at every leaf -/
theorem c06_total_of_defaults (wt : WT) (ds : List Dict) (ctx : Option Dict) (cmd : Dict)
    (hgood : ∀ d ∈ ds, goodSrc wt d = true) (hbase : allBased wt ctx cmd = true) :
    ∃ w out, applySrcs wt ds = .ok w ∧ resolve w ctx cmd = .ok out ∧
      ∀ p m, slotAt wt p = some m → ∃ b, baseAt wt ctx p = some b ∧
        getPath p (.dict out) = some (pick (getPath p (.dict cmd)) (foldAssign p ds m) b) :=
  c06_total wt ds ctx cmd hgood fun _ hw =>
    allPicked_of_allBased ((applySrcs_inv hw).1 ▸ upd_foldl ds wt) ctx cmd hbase

/-- non-vacuous: `clsA` (every leaf has a definition default) with `srcA1`, `srcA2` and an empty command line -/
example : ∃ w out, applySrcs clsA [srcA1, srcA2] = .ok w ∧ resolve w none [] = .ok out := by
  obtain ⟨w, out, h1, h2, _⟩ := c06_total_of_defaults clsA [srcA1, srcA2] none []
    (by decide +kernel) (by decide +kernel)
  exact ⟨w, out, h1, h2⟩

/-! ### the parser with one registration (`parse()`, or one `add_arguments`): which sources, in which order -/

/-- the files `parse_known_args` hands to `set_defaults`, in order: the constructor's, then — when the
    `--config_path` option exists — those named on the command line, or the constructor's again when it is absent -/
def fileSeq (p : ParseIn) : List Dict :=
  p.ctorFiles ++
    (match p.addArg with
     | some true => (match p.cliFiles with | some fs => fs | none => p.ctorFiles)
     | some false => []
     | none => if p.ctorFiles.isEmpty then [] else (match p.cliFiles with | some fs => fs | none => p.ctorFiles))

/-- what `set_defaults(file)` looks up per destination: root-less layout re-rooted under `dest`, else as is -/
def kwOf (withoutRoot : Bool) (dest : Str) (f : Dict) : Dict :=
  if withoutRoot then unionD [(dest, .dict f)] [(dest, .dict [])] else unionD f []

/-- the sections the wrapper at `dest` receives from a list of files (files without a section are skipped) -/
def fileSrcs (withoutRoot : Bool) (dest : Str) : List Dict → List Dict
  | [] => []
  | f :: fs =>
    match dget (kwOf withoutRoot dest f) dest with
    | some (.dict d) => d :: fileSrcs withoutRoot dest fs
    | _ => fileSrcs withoutRoot dest fs

/-- root-less layout: the section is the whole file (through `dict_union`) -/
theorem kwOf_rootless (dest : Str) (f : Dict) : dget (kwOf true dest f) dest = some (.dict (unionD f [])) := by
  rw [kwOf, if_pos rfl, dget_unionD, dget_cons, dget_cons, if_pos rfl, if_pos rfl]; rfl

/-- dest-keyed layout: the section is what the file holds under `dest` -/
theorem kwOf_dest (dest : Str) (f : Dict) : dget (kwOf false dest f) dest = (dget f dest).map norm := by
  rw [kwOf, if_neg Bool.false_ne_true]
  exact c06_union_keeps_left f [] dest rfl

/-- the sections the wrapper at `dest` receives from `set_defaults(**kw)` calls (dest-keyed keywords) -/
def kwSrcs (dest : Str) : List Dict → List Dict
  | [] => []
  | kw :: kws =>
    match dget kw dest with
    | some (.dict d) => d :: kwSrcs dest kws
    | _ => kwSrcs dest kws

/-- `add_config_path_arg` as the constructor resolves it (parsing.py:167-170) -/
def addArgOn (p : ParseIn) : Bool :=
  match p.addArg with
  | some b => b
  | none => !p.ctorFiles.isEmpty

theorem fileSeq_eq (p : ParseIn) :
    fileSeq p = p.ctorFiles ++ (if addArgOn p then (match p.cliFiles with | some fs => fs | none => p.ctorFiles) else []) := by
  unfold fileSeq addArgOn
  cases p.addArg with
  | none => cases p.ctorFiles.isEmpty <;> rfl
  | some b => cases b <;> rfl

theorem fileSrcs_eq (wr : Bool) (dest : Str) (fs : List Dict) :
    fileSrcs wr dest fs = kwSrcs dest (fs.map (kwOf wr dest)) := by
  induction fs with
  | nil => rfl
  | cons f fs ih => rw [fileSrcs, List.map_cons, kwSrcs, ih]

theorem effectiveKw_single (wr : Bool) (r : Reg) (f : Dict) :
    effectiveKw wr [r] (some f) [] = kwOf wr r.dest f := by
  cases wr <;> rfl

/-- the wrapper loop of `set_defaults` with a single wrapper = `wrapper.set_default(section)` if the keyword dict
    has a section for it, nothing otherwise -/
theorem applyRegs_single {r : Reg} {kw : Dict} {rs : List Reg} (h : applyRegs [r] kw = .ok rs) :
    ∃ w, rs = [{ r with wt := w }] ∧
      ∀ kws, applySrcs r.wt (kwSrcs r.dest (kw :: kws)) = applySrcs w (kwSrcs r.dest kws) := by
  rw [applyRegs] at h
  split at h
  next hd => cases h; exact ⟨r.wt, rfl, fun kws => by rw [kwSrcs, hd]⟩
  next d hd =>
    split at h
    · cases h
    next w hs => cases h; exact ⟨w, rfl, fun kws => by rw [kwSrcs, hd, applySrcs, hs]⟩
  all_goals cases h

theorem parserSetDefaults_single {wr : Bool} {st st' : PState} {r : Reg} {file : Option Dict} {kw : Dict}
    (hst : st.regs = [r]) (h : parserSetDefaults wr st file kw = .ok st') :
    ∃ w, st'.regs = [{ r with wt := w }] ∧ ∀ kws,
      applySrcs r.wt (kwSrcs r.dest (effectiveKw wr [r] file kw :: kws)) = applySrcs w (kwSrcs r.dest kws) := by
  rw [parserSetDefaults, hst] at h
  split at h
  · cases h
  next regs' ha => cases h; exact applyRegs_single ha

theorem applyFiles_single {wr : Bool} {fs : List Dict} {st st' : PState} {r : Reg}
    (hst : st.regs = [r]) (h : applyFiles wr st fs = .ok st') :
    ∃ w, st'.regs = [{ r with wt := w }] ∧ applySrcs r.wt (fileSrcs wr r.dest fs) = .ok w := by
  fun_induction applyFiles wr st fs generalizing r with
  | case1 => cases h; exact ⟨r.wt, hst, rfl⟩
  | case2 => cases h
  | case3 st f fs st1 hp ih =>
    obtain ⟨w1, hr1, ha1⟩ := parserSetDefaults_single hst hp
    obtain ⟨w2, hr2, ha2⟩ := ih hr1 h
    refine ⟨w2, hr2, ?_⟩
    rw [fileSrcs_eq, List.map_cons, ← effectiveKw_single, ha1, ← fileSrcs_eq]
    exact ha2

theorem applyFiles_append {wr : Bool} {a b : List Dict} {st st1 st2 : PState}
    (h1 : applyFiles wr st a = .ok st1) (h2 : applyFiles wr st1 b = .ok st2) :
    applyFiles wr st (a ++ b) = .ok st2 := by
  fun_induction applyFiles wr st a with
  | case1 => cases h1; exact h2
  | case2 => cases h1
  | case3 st f fs st' hp ih => rw [List.cons_append, applyFiles, hp]; exact ih h1

/-- **order of the file layers**: a successful parse is `set_defaults` on the constructor files in order, then on
    the `--config_path` files in order (the constructor files again when the option exists but is absent), then
    the resolution against the command line -/
theorem parsePhase_inv {wr : Bool} {st : PState} {p : ParseIn} {out : Dict} (h : parsePhase wr st p = .ok out) :
    ∃ st2, applyFiles wr st (fileSeq p) = .ok st2 ∧ resolveAll st2.regs p.cmd = .ok out := by
  rw [parsePhase] at h
  split at h
  · cases h
  next st1 h1 =>
    extract_lets addArg second at h
    -- the second batch of files is one more `applyFiles`
    have hs : second = applyFiles wr st1
        (if addArgOn p then (match p.cliFiles with | some fs => fs | none => p.ctorFiles) else []) := by
      show (if addArgOn p = true then _ else _) = _
      cases addArgOn p
      · rfl
      · cases p.cliFiles <;> rfl
    rw [hs] at h
    split at h
    · cases h
    next st2 h2 =>
      refine ⟨st2, fileSeq_eq p ▸ applyFiles_append h1 h2, ?_⟩
      revert h
      cases !addArg && p.cliFiles.isSome with
      | true => nofun
      | false =>
        cases resolveAll st2.regs p.cmd with
        | error e => nofun
        | ok o =>
          cases typeKeyLeft st2.regs st2.cons with
          | true => nofun
          | false => exact id

/-- **one registration**: the wrapper sees the sections of the files in `fileSeq` order, then the resolution
    against the command line -/
theorem c06_parse_single {wr : Bool} {st : PState} {r : Reg} {pin : ParseIn} {out : Dict}
    (hst : st.regs = [r]) (h : parsePhase wr st pin = .ok out) :
    ∃ wt' i, applySrcs r.wt (fileSrcs wr r.dest (fileSeq pin)) = .ok wt' ∧
      resolve wt' r.inst (sectionOf (dget pin.cmd r.dest)) = .ok i ∧ out = [(r.dest, .dict i)] := by
  obtain ⟨st2, hfiles, hres⟩ := parsePhase_inv h
  obtain ⟨w, hr, hw⟩ := applyFiles_single hst hfiles
  rw [hr, resolveAll] at hres
  split at hres
  · cases hres
  next i hi => cases hres; exact ⟨w, i, hw, hi, rfl⟩

theorem parse_priority_after {wr : Bool} {st : PState} {r : Reg} {pin : ParseIn} {out : Dict}
    (hst : st.regs = [r]) (h : parsePhase wr st pin = .ok out) {wt0 : WT} {pre : List Dict}
    (hpre : applySrcs wt0 pre = .ok r.wt) {k : Str} {q : List Str} {m : J} (hp : slotAt wt0 (k :: q) = some m) :
    ∃ b, baseAt wt0 r.inst (k :: q) = some b ∧
      getPath (r.dest :: k :: q) (.dict out) =
        some (pick (getPath (r.dest :: k :: q) (.dict pin.cmd))
                   (foldAssign (k :: q) (pre ++ fileSrcs wr r.dest (fileSeq pin)) m) b) := by
  obtain ⟨wt', i, hsrc, hres, rfl⟩ := c06_parse_single hst h
  obtain ⟨b, hb, hg, _⟩ := c06_priority_general wt0 wt' _ r.inst _ i (k :: q) m (applySrcs_append hpre hsrc) hres hp
  exact ⟨b, hb, by rw [getPath_cons_self, getPath_sectionOf]; exact hg⟩

/-- **per-leaf priority through the parser** (one registration): the leaf at `dest.p` ends up with the command-line
    value if given, else the value of the *last* file in `fileSeq` whose section contains the path (when not None),
    else the slot it had before the parse (default instance / `set_defaults` keywords), else the instance attribute
    or definition default -/
theorem c06_parse_priority (wr : Bool) (st : PState) (r : Reg) (pin : ParseIn) (out : Dict)
    (hst : st.regs = [r]) (h : parsePhase wr st pin = .ok out) (k : Str) (q : List Str) (m : J)
    (hp : slotAt r.wt (k :: q) = some m) :
    ∃ b, baseAt r.wt r.inst (k :: q) = some b ∧
      getPath (r.dest :: k :: q) (.dict out) =
        some (pick (getPath (r.dest :: k :: q) (.dict pin.cmd))
                   (foldAssign (k :: q) (fileSrcs wr r.dest (fileSeq pin)) m) b) :=
  parse_priority_after hst h (pre := []) rfl hp

/-- **an unknown key in any file section makes the whole parse fail** (it cannot return a result): the section `d` of
    any of the files `parse_known_args` applies, holding a key that names no field of the registered class — at the top
    of the section or at any depth below it -/
theorem c06_parse_unknown_key (wr : Bool) (st : PState) (r : Reg) (pin : ParseIn) (hst : st.regs = [r])
    (d : Dict) (hd : d ∈ fileSrcs wr r.dest (fileSeq pin))
    (hu : unknownKeys r.wt d = true ∨ nestedUnknown r.wt d = true) : ∀ out, parsePhase wr st pin ≠ .ok out := by
  intro out h
  obtain ⟨wt', _, hsrc, _, _⟩ := c06_parse_single hst h
  obtain ⟨hk, hn⟩ := (applySrcs_inv hsrc).2 d hd
  rw [hk, hn] at hu
  cases hu <;> contradiction

def stA : PState := { regs := [{ dest := ['c'], wt := clsA, inst := none }], cons := [], stray := [] }

/-- non-vacuous: a constructor file `{s: {z: 5}}` (root-less layout) — `z` names no field of `S` -/
example : ∀ out, parsePhase true stA { ctorFiles := [[(['s'], .dict [(['z'], .int 5)])]], addArg := none,
                                       cliFiles := none, cmd := [] } ≠ .ok out :=
  c06_parse_unknown_key true stA { dest := ['c'], wt := clsA, inst := none } _ rfl
    (unionD [(['s'], .dict [(['z'], .int 5)])] []) (List.Mem.head _) (Or.inr (by decide +kernel))

/-! ### the two file layers, in order -/

/-- what file `f` says about the leaf at `dest.p` (after re-rooting for the root-less layout) -/
def fileHas (wr : Bool) (dest : Str) (f : Dict) (p : List Str) : Option J :=
  match dget (kwOf wr dest f) dest with
  | some (.dict d) => getPath p (.dict d)
  | _ => none

theorem foldAssign_fileSrcs (wr : Bool) (dest : Str) (p : List Str) (fs : List Dict) (m : J) :
    foldAssign p (fileSrcs wr dest fs) m = foldOpt (fun f => fileHas wr dest f p) fs m := by
  induction fs generalizing m with
  | nil => rfl
  | cons f fs ih =>
    rw [fileSrcs, foldOpt, fileHas]
    cases dget (kwOf wr dest f) dest with
    | none => exact ih _
    | some v => cases v <;> exact ih _

/-- **`--config_path` files beat constructor files, and among themselves the later one wins**: the last command-line
    file that gives the leaf a non-None value decides, whatever the constructor files and the earlier command-line
    files say, when no explicit option is given for the leaf -/
theorem c06_cli_layer_wins (wr : Bool) (st : PState) (r : Reg) (pin : ParseIn) (out : Dict)
    (hst : st.regs = [r]) (h : parsePhase wr st pin = .ok out) (k : Str) (q : List Str) (m : J)
    (hp : slotAt r.wt (k :: q) = some m)
    (pre post : List Dict) (f : Dict) (v : J)
    (hcli : pin.cliFiles = some (pre ++ f :: post)) (hon : addArgOn pin = true)
    (hf : fileHas wr r.dest f (k :: q) = some v) (hv : v.isNull = false)
    (hpost : ∀ t ∈ post, fileHas wr r.dest t (k :: q) = none)
    (hcmd : getPath (r.dest :: k :: q) (.dict pin.cmd) = none) :
    getPath (r.dest :: k :: q) (.dict out) = some v := by
  obtain ⟨b, _, hg⟩ := c06_parse_priority wr st r pin out hst h k q m hp
  rw [hg, hcmd, foldAssign_fileSrcs, fileSeq_eq, hon, hcli, if_pos rfl, ← List.append_assoc,
    foldOpt_last f hf hpost, pick, hv]
  rfl

/-- **constructor files in order, below the `--config_path` files**: the last constructor file that gives the leaf a
    non-None value decides when no command-line file has the leaf and no explicit option is given (also when the
    constructor files are applied a second time because `--config_path` is absent) -/
theorem c06_ctor_layer_wins (wr : Bool) (st : PState) (r : Reg) (pin : ParseIn) (out : Dict)
    (hst : st.regs = [r]) (h : parsePhase wr st pin = .ok out) (k : Str) (q : List Str) (m : J)
    (hp : slotAt r.wt (k :: q) = some m)
    (pre post : List Dict) (f : Dict) (v : J)
    (hctor : pin.ctorFiles = pre ++ f :: post)
    (hf : fileHas wr r.dest f (k :: q) = some v) (hv : v.isNull = false)
    (hpost : ∀ t ∈ post, fileHas wr r.dest t (k :: q) = none)
    (hcli : ∀ fs, pin.cliFiles = some fs → ∀ t ∈ fs, fileHas wr r.dest t (k :: q) = none)
    (hcmd : getPath (r.dest :: k :: q) (.dict pin.cmd) = none) :
    getPath (r.dest :: k :: q) (.dict out) = some v := by
  obtain ⟨b, _, hg⟩ := c06_parse_priority wr st r pin out hst h k q m hp
  have hL : ∀ m', foldOpt (fun f => fileHas wr r.dest f (k :: q)) pin.ctorFiles m' = v := by
    intro m'; rw [hctor]; exact foldOpt_last f hf hpost
  have : foldOpt (fun f => fileHas wr r.dest f (k :: q)) (fileSeq pin) m = v := by
    rw [fileSeq_eq, foldOpt_append, hL]
    cases addArgOn pin with
    | false => rfl
    | true =>
      cases hc : pin.cliFiles with
      | some fs => exact foldOpt_none (hcli fs hc)
      | none => exact hL v
  rw [hg, hcmd, foldAssign_fileSrcs, this, pick, hv]
  rfl

/-! ### from the construction of the parser: default instance < `set_defaults(**kw)` < files < command line -/

theorem setFields_nil (wt : WT) : setFields wt [] = .ok wt := by
  induction wt with
  | nil => rfl
  | leaf n df m rest ih => rw [setFields, ih]; rfl
  | nested n fac sub rest _ ih => rw [setFields, ih]; rfl

theorem setDefault_nil (wt : WT) : setDefault wt [] = .ok wt := by
  rw [setDefault, setFields_nil]; rfl

def wt0Of (cls : WT) (inst : Option Dict) : WT :=
  match inst with
  | some i => initInst cls i
  | none => cls

theorem addArguments_empty (wr : Bool) (dest : Str) (cls : WT) (inst : Option Dict) :
    addArguments wr emptyState dest cls inst =
      .ok { regs := [{ dest := dest, wt := wt0Of cls inst, inst := inst }], cons := [], stray := [] } := by
  have h : ∀ wt : WT, (if (wr && cls.leafNames.all fun n => hasKey emptyState.stray n) = true then
      setDefault wt (emptyState.stray.filter fun kv => cls.names.contains kv.1) else .ok wt) = .ok wt := by
    intro wt; split
    · exact setDefault_nil wt
    · rfl
  unfold addArguments
  dsimp only
  rw [show dget emptyState.stray dest = none from rfl]
  dsimp only
  rw [h]
  cases inst <;> rfl

theorem addAll_single {wr : Bool} {ri : RegIn} {st : PState} (h : addAll wr emptyState [ri] = .ok st) :
    ∃ inst, (∀ kw, ri.instKw = some kw → construct ri.cls kw = inst) ∧ (ri.instKw = none → inst = none) ∧
      st = { regs := [{ dest := ri.dest, wt := wt0Of ri.cls inst, inst := inst }], cons := [], stray := [] } := by
  rw [addAll] at h
  split at h
  · cases h
  · revert h
    cases hk : ri.instKw with
    | none =>
      dsimp only; rw [addArguments_empty]
      intro h; cases h
      exact ⟨none, nofun, fun _ => rfl, rfl⟩
    | some kw =>
      dsimp only
      cases hc : construct ri.cls kw with
      | none => intro h; cases h
      | some i =>
        dsimp only; rw [addArguments_empty]
        intro h; cases h
        exact ⟨some i, fun kw' e => by cases e; exact hc, nofun, rfl⟩

theorem applyKwargs_single {wr : Bool} {kws : List Dict} {st st' : PState} {r : Reg}
    (hst : st.regs = [r]) (h : applyKwargs wr st kws = .ok st') :
    ∃ w, st'.regs = [{ r with wt := w }] ∧ applySrcs r.wt (kwSrcs r.dest kws) = .ok w := by
  fun_induction applyKwargs wr st kws generalizing r with
  | case1 => cases h; exact ⟨r.wt, hst, rfl⟩
  | case2 => cases h
  | case3 st kw kws st1 hp ih =>
    obtain ⟨w1, hr1, ha1⟩ := parserSetDefaults_single hst hp
    obtain ⟨w2, hr2, ha2⟩ := ih hr1 h
    exact ⟨w2, hr2, ha1 kws ▸ ha2⟩

/-- one registration, no keywords before it: the state `build` reaches -/
theorem c06_build_single {c : Case} {ri : RegIn} {st : PState}
    (hb : c.kwBefore = []) (hr : c.regs = [ri]) (h : build c = .ok st) :
    ∃ inst w, st.regs = [{ dest := ri.dest, wt := w, inst := inst }] ∧
      (∀ kw, ri.instKw = some kw → construct ri.cls kw = inst) ∧ (ri.instKw = none → inst = none) ∧
      applySrcs (wt0Of ri.cls inst) (kwSrcs ri.dest c.kwAfter) = .ok w := by
  rw [build, hb, hr, applyKwargs] at h
  dsimp only at h
  split at h
  · cases h
  next st1 ha =>
    obtain ⟨inst, hi1, hi2, rfl⟩ := addAll_single ha
    obtain ⟨w, hw1, hw2⟩ := applyKwargs_single rfl h
    exact ⟨inst, w, hw1, hi1, hi2, hw2⟩

/-- **all five layers, from `run`** (one registration, no keywords before it): the leaf at `dest.p` of the result is
    the command-line value if given, else the value of the last source — `set_defaults(**kw)` calls in order, then the
    constructor files in order, then the `--config_path` files in order — that contains the leaf (if not None), else
    the slot the default instance left (`slotAt_initInst`: its attribute), else the instance attribute / definition
    default the wrapper sees -/
theorem c06_run_layers (c : Case) (ri : RegIn) (out : Dict)
    (hb : c.kwBefore = []) (hr : c.regs = [ri]) (h : run c = .ok out) :
    ∃ inst, (∀ kw, ri.instKw = some kw → construct ri.cls kw = inst) ∧ (ri.instKw = none → inst = none) ∧
      ∀ (k : Str) (q : List Str) (m : J), slotAt (wt0Of ri.cls inst) (k :: q) = some m →
        ∃ b, baseAt (wt0Of ri.cls inst) inst (k :: q) = some b ∧
          getPath (ri.dest :: k :: q) (.dict out) =
            some (pick (getPath (ri.dest :: k :: q) (.dict c.parse.cmd))
                       (foldAssign (k :: q) (kwSrcs ri.dest c.kwAfter ++
                                             fileSrcs c.withoutRoot ri.dest (fileSeq c.parse)) m) b) := by
  rw [run] at h
  split at h
  · cases h
  next st hbd =>
    obtain ⟨inst, w, hregs, hi1, hi2, hkw⟩ := c06_build_single hb hr hbd
    exact ⟨inst, hi1, hi2, fun k q m hp => parse_priority_after hregs h hkw hp⟩

/-- non-vacuous: `add_arguments(A, "c", default=A(a=10, s=S(b=11)))`, `set_defaults(c={"a": 20})`, constructor file
    `{s: {b: 6}}`: `a = 20` (keywords over instance), `s.b = 6` (file over instance) -/
example : run { withoutRoot := true, kwBefore := [],
                regs := [{ dest := ['c'], cls := clsA, instKw := some [(['a'], .int 10), (['s'], .dict [(['b'], .int 11)])] }],
                kwAfter := [[(['c'], .dict [(['a'], .int 20)])]],
                parse := { ctorFiles := [[(['s'], .dict [(['b'], .int 6)])]], addArg := none, cliFiles := none, cmd := [] } }
    = .ok [(['c'], .dict [(['a'], .int 20), (['s'], .dict [(['b'], .int 6)])])] := eq_ok_of_toOption (by decide +kernel)

def pinA : ParseIn := { ctorFiles := [srcA1], addArg := none, cliFiles := some [srcA2],
                        cmd := [(['c'], .dict [(['s'], .dict [(['b'], .int 9)])])] }
def outA : Dict := [(['c'], .dict [(['a'], .int 7), (['s'], .dict [(['b'], .int 9)])])]

/-- the running parse, evaluated once -/
theorem parsePhase_stA : parsePhase true stA pinA = .ok outA := eq_ok_of_toOption (by decide +kernel)

/-- non-vacuous: constructor file says `a = 5`, the `--config_path` file says `a = 7`: 7 -/
example : getPath [['c'], ['a']] (.dict outA) = some (.int 7) :=
  c06_cli_layer_wins true stA { dest := ['c'], wt := clsA, inst := none } pinA outA rfl parsePhase_stA ['a'] [] .null rfl
    [] [] srcA2 (.int 7) rfl rfl (by decide +kernel) rfl nofun rfl

/-- non-vacuous: only the constructor file has `s.b` (= 6); `--config_path` absent, so the file is applied twice -/
example : getPath [['c'], ['s'], ['b']] (.dict [(['c'], .dict [(['a'], .int 5), (['s'], .dict [(['b'], .int 6)])])]) = some (.int 6) :=
  c06_ctor_layer_wins true stA { dest := ['c'], wt := clsA, inst := none }
    { ctorFiles := [srcA1], addArg := none, cliFiles := none, cmd := [] } _ rfl (eq_ok_of_toOption (by decide +kernel)) ['s'] [['b']] .null rfl
    [] [] srcA1 (.int 6) rfl (by decide +kernel) rfl nofun nofun rfl

/-! ### the parser: order of the file layers, and the two open findings reproduced end to end -/

/-- constructor files, then `--config_path` files, then the command line, leaf by leaf (`parse()` layout) -/
example : run { withoutRoot := true, kwBefore := [], regs := [regA], kwAfter := [],
                parse := { ctorFiles := [[(['a'], .int 5), (['s'], .dict [(['b'], .int 6)])]],
                           addArg := none, cliFiles := some [[(['a'], .int 7)]],
                           cmd := [(['c'], .dict [(['s'], .dict [(['b'], .int 9)])])] } }
    = .ok [(['c'], .dict [(['a'], .int 7), (['s'], .dict [(['b'], .int 9)])])] := eq_ok_of_toOption (by decide +kernel)

/-- `c06_parse_priority` applies to it: the nested leaf `c.s.b` (slot empty before the parse) -/
example : ∃ b, baseAt clsA none [['s'], ['b']] = some b ∧
    getPath [['c'], ['s'], ['b']] (.dict [(['c'], .dict [(['a'], .int 7), (['s'], .dict [(['b'], .int 9)])])]) =
      some (pick (some (.int 9)) (foldAssign [['s'], ['b']] [unionD [(['a'], .int 5), (['s'], .dict [(['b'], .int 6)])] [],
                                                             unionD [(['a'], .int 7)] []] .null) b) :=
  c06_parse_priority true stA { dest := ['c'], wt := clsA, inst := none } pinA _ rfl parsePhase_stA ['s'] [['b']] .null rfl

/-- **witness (open finding C06-null-erases), end to end**: files `[{a: 5, s: {b: 6}}, {a: null}]` give `a = 1` -/
theorem c06_null_erases_witness :
    run { withoutRoot := true, kwBefore := [], regs := [regA], kwAfter := [],
          parse := { ctorFiles := [[(['a'], .int 5), (['s'], .dict [(['b'], .int 6)])], [(['a'], .null)]],
                     addArg := none, cliFiles := none, cmd := [] } }
    = .ok [(['c'], .dict [(['a'], .int 1), (['s'], .dict [(['b'], .int 6)])])] := eq_ok_of_toOption (by decide +kernel)

/-- an unknown key in a file is a `RuntimeError` of the whole parse -/
theorem c06_unknown_key_e2e_witness :
    run { withoutRoot := true, kwBefore := [], regs := [regA], kwAfter := [],
          parse := { ctorFiles := [[(['s'], .dict [(['z'], .int 5)])]], addArg := none,
                     cliFiles := none, cmd := [] } }
    = .error (.raise .runtimeError) := rfl

/-! ### Optional members: instance or `None` (the collapse decision of `_create_dataclass_instance`) -/

/-- some leaf below receives an explicit command-line value different from its default -/
def hasNonDefaultArg : OT → Bool
  | .nil => false
  | .leaf _ d a rest => (match a with
                         | some v => !J.eqScalar v d
                         | none => false) || hasNonDefaultArg rest
  | .member _ _ sub rest => hasNonDefaultArg sub || hasNonDefaultArg rest

theorem atDefault_eq_not_hasNonDefaultArg (t : OT) : atDefault t = !hasNonDefaultArg t := by
  induction t with
  | nil => rfl
  | leaf n d a rest ih =>
    cases a with
    | none => rw [atDefault, hasNonDefaultArg, ih]; rfl
    | some v => rw [atDefault, hasNonDefaultArg, ih]; cases J.eqScalar v d <;> rfl
  | member n o sub rest ihs ihr => rw [atDefault, hasNonDefaultArg, ihs, ihr, Bool.not_or]

/-- **a command-line value different from its default, anywhere below an Optional member, makes the member an
    instance** (true since 3f531df + d1d203e) -/
theorem c06_member_instance_of_nondefault_arg (n : Str) (opt : Bool) (sub rest : OT)
    (h : hasNonDefaultArg sub = true) :
    collapse opt sub = false ∧ dget (built (.member n opt sub rest)) n = some (.dict (built sub)) := by
  have hc : collapse opt sub = false := by
    rw [collapse, atDefault_eq_not_hasNonDefaultArg, h]; exact Bool.and_false _
  exact ⟨hc, by rw [built, hc, dget_cons, if_pos rfl]; rfl⟩

/-- the leaf at a path of names (first field with each name): its default and its explicit value -/
def leafAt : OT → List Str → Option (J × Option J)
  | .nil, _ => none
  | .leaf _ _ _ _, [] => none
  | .member _ _ _ _, [] => none
  | .leaf n d a rest, k :: q => if k = n then (if q = [] then some (d, a) else none) else leafAt rest (k :: q)
  | .member n _ sub rest, k :: q => if k = n then leafAt sub q else leafAt rest (k :: q)

/-- a leaf holding an explicit value different from its default counts as a non-default argument of every tree
    around it, and no member above it collapses: the value is found at the leaf's path -/
theorem leafAt_nondefault {t : OT} {p : List Str} {d v : J} (h : leafAt t p = some (d, some v))
    (hne : J.eqScalar v d = false) : hasNonDefaultArg t = true ∧ getPath p (.dict (built t)) = some v := by
  fun_induction leafAt t p with
  | case1 | case2 | case3 | case5 => cases h
  | case4 =>
    cases h
    rw [hasNonDefaultArg, hne, built, getPath_cons_self]
    exact ⟨rfl, rfl⟩
  | case6 n _ _ rest k q hk ih =>
    obtain ⟨h1, h2⟩ := ih h
    show (_ || hasNonDefaultArg rest) = true ∧ getPath (k :: q) (.dict ((n, _) :: built rest)) = some v
    rw [h1, Bool.or_true, getPath_cons_ne hk]
    exact ⟨rfl, h2⟩
  | case7 o sub rest k _ ih =>
    obtain ⟨h1, h2⟩ := ih h
    rw [hasNonDefaultArg, h1, built, (c06_member_instance_of_nondefault_arg k o sub rest h1).1,
      getPath_cons_self]
    exact ⟨rfl, h2⟩
  | case8 _ _ _ _ _ _ hk ih =>
    obtain ⟨h1, h2⟩ := ih h
    rw [hasNonDefaultArg, h1, Bool.or_true, built, getPath_cons_ne hk]
    exact ⟨rfl, h2⟩

/-- **the value is not lost**: an explicit command-line value different from the leaf's default is found at the leaf's
    path in the result, however many Optional (or plain) members lie above it -/
theorem c06_cmd_value_reaches_result : ∀ (t : OT) (p : List Str) (d v : J),
    leafAt t p = some (d, some v) → J.eqScalar v d = false → getPath p (.dict (built t)) = some v :=
  fun _ _ _ _ h hne => (leafAt_nondefault h hne).2

/-- `R.inner: Optional[Inner] = None`, `Inner.x = 2`, `Inner.deep: Optional[Deep] = None`, `Deep.y = 1`, argv `--y 15` -/
def otDeep : OT :=
  .leaf ['a'] (.int 4) none
    (.member ['i', 'n', 'n', 'e', 'r'] true
      (.leaf ['x'] (.int 2) none (.member ['d', 'e', 'e', 'p'] true (.leaf ['y'] (.int 1) (some (.int 15)) .nil) .nil)) .nil)

example : getPath [['i', 'n', 'n', 'e', 'r'], ['d', 'e', 'e', 'p'], ['y']] (.dict (built otDeep)) = some (.int 15) :=
  c06_cmd_value_reaches_result otDeep _ (.int 1) (.int 15) (by decide +kernel) rfl

/-- the statement for the rule the code had before 3f531df / d1d203e (only the member's own direct fields compared) -/
def CollapseOldSound : Prop := ∀ (opt : Bool) (sub : OT), hasNonDefaultArg sub = true → collapseOld opt sub = false

/-- **witness**: under the old rule `--y 15` for `inner.deep.y` left `inner = None` (the command-line value was lost) -/
theorem c06_collapse_old_witness : ¬ CollapseOldSound := by
  intro h
  cases h true (.leaf ['x'] (.int 2) none (.member ['d', 'e', 'e', 'p'] true (.leaf ['y'] (.int 1) (some (.int 15)) .nil) .nil)) rfl

example : dget (builtOld otDeep) ['i', 'n', 'n', 'e', 'r'] = some .null := by decide +kernel

/-- **the open finding C06-optional-cmd-repeats-default, in the model**: explicit values that all repeat their
    defaults are indistinguishable from no argument — the Optional member stays `None` and they are lost -/
theorem c06_repeats_default_collapses (n : Str) (sub rest : OT) (h : hasNonDefaultArg sub = false) :
    dget (built (.member n true sub rest)) n = some .null := by
  rw [built, collapse, atDefault_eq_not_hasNonDefaultArg, h, dget_cons, if_pos rfl]; rfl

/-- witness of that finding: `--x 2` with `Inner.x = 2` -/
example : dget (built (.member ['i', 'n', 'n', 'e', 'r'] true (.leaf ['x'] (.int 2) (some (.int 2)) .nil) .nil))
    ['i', 'n', 'n', 'e', 'r'] = some .null :=
  c06_repeats_default_collapses _ _ _ rfl

end SpVerif.C06

