/-
  C10 — Option spelling follows the generation mode, nested mode and dash variant.
  Theorems about `SpVerif.Model.Naming` (mirrors FieldWrapper.option_strings), composed with
  `Model.Fields.tableOf` (the table of actions of a dataclass) and `Model.Engine` (argparse's lookup).

  Map (property clause → theorem):
  * "the accepted options are exactly …"      c10_exact, c10_optionStrings_iff (after dedup + sort);
      explicit lists (read off optionList_generated): c10_underscore_{flat,nested,both},
      c10_dash_{flat,nested}, c10_both_flat(_plain); c10_one_letter_flat; WITHOUT_ROOT: c10_without_root
  * "plus every declared alias"               c10_alias_kept (0, 1 or 2 dashes, all 18 modes),
      c10_alias_{1dash,2dash}_kept
  * DASH rewrites generated names only         c10_dash_alias_kept, c10_dash_option_no_underscore
  * UNDERSCORE_AND_DASH: both spellings        c10_both_spellings, c10_both_{name,path}_spellings,
      alias_variant_mem_optionList; open finding: AliasVariantKeepsDashes is FALSE
      (c10_alias_variant_witness, c10_alias_variant_partial, c10_alias_1dash_variant_actual)
  * "no other spelling is accepted"            c10_no_other_spelling(_eq) (any table),
      c10_flat_no_other_spelling(_eq) (table of a dataclass, in terms of the rule),
      c10_int_dataclass_no_other_spelling (no hypothesis left but the rule)
  * "every accepted spelling sets the same field"  c10_spelling_sets_field, c10_same_field (any table;
      both forms `o tok` / `o=tok`, built on C02.c02_engine_roundtrip),
      c10_flat_spelling_sets_field, c10_int_dataclass_same_field; open finding: a field named `_`
      registers the bare separator `--` (SeparatorFree is FALSE: c10_separator_witness,
      c10_separator_partial, c10_same_field_separator_witness)
-/
import SpVerif.Model.Naming
import SpVerif.Lemmas.Core
import SpVerif.Props.C04
import SpVerif.Props.C02
import SpVerif.Lemmas.Fields
import SpVerif.Lemmas.Lit
namespace SpVerif.C10
open SpVerif

/-! ### The documented rule, written as a predicate organised *by source* (generated flat name,
    generated nested name, each alias) rather than by the code's list-building order. -/

inductive Src
  | flatName
  | nestedName
  | alias (a : Str)
  deriving DecidableEq, Repr

/-- which sources exist in a generation mode -/
def sources (cfg : Cfg) (fw : FW) : List Src :=
  (if cfg.gen = .nested then [] else [Src.flatName]) ++
  (if cfg.gen = .flat then [] else [Src.nestedName]) ++
  fw.aliases.map Src.alias

/-- the nested path: the destination, minus its first component under WITHOUT_ROOT -/
def nestedPath (cfg : Cfg) (fw : FW) : Str :=
  match cfg.nest with
  | .default => fw.dest
  | .withoutRoot => dropRoot fw.dest

/-- DASH rewrites generated names only (not aliases) -/
def genSpell (cfg : Cfg) (x : Str) : Str := if cfg.dash = .dashOnly then dashify x else x

/-- the name part (after the leading dashes) contributed by a source -/
def body (cfg : Cfg) (fw : FW) : Src → Str
  | .flatName => genSpell cfg (fw.pref ++ fw.name)
  | .nestedName => genSpell cfg (nestedPath cfg fw)
  | .alias a => (aliasPair fw.pref a).2

/-- the leading dashes a source is offered with -/
def dashesOf (fw : FW) : Src → List Str
  | .alias a => [(aliasPair fw.pref a).1]
  | _ => if fw.name.length = 1 then [['-'], ['-', '-']] else [['-', '-']]

/-- **The rule.** `s` is an option string of the field iff it is some source's body behind one of
    that source's dashes, or — under UNDERSCORE_AND_DASH only — the dashed spelling of a body that
    contains an underscore (with the dash count decided by the dashed spelling's length). -/
def Spec (cfg : Cfg) (fw : FW) (s : Str) : Prop :=
  ∃ src ∈ sources cfg fw,
    (∃ d ∈ dashesOf fw src, s = d ++ body cfg fw src) ∨
    (cfg.dash = .both ∧ hasUnderscore (body cfg fw src) = true ∧
      s = dashFor (dashify (body cfg fw src)) ++ dashify (body cfg fw src))

theorem mem_sources (cfg : Cfg) (fw : FW) (src : Src) :
    src ∈ sources cfg fw ↔
      (cfg.gen ≠ .nested ∧ src = .flatName) ∨ (cfg.gen ≠ .flat ∧ src = .nestedName) ∨
      (∃ a ∈ fw.aliases, .alias a = src) := by
  simp only [sources, List.mem_append, List.mem_map, List.mem_ite_nil_left, List.mem_singleton,
    or_assoc, ne_eq]

theorem mem_candidates (cfg : Cfg) (fw : FW) (c : Str) :
    c ∈ candidates cfg fw ↔
      (cfg.gen ≠ .nested ∧ c = body cfg fw .flatName) ∨ (cfg.gen ≠ .flat ∧ c = body cfg fw .nestedName) := by
  unfold candidates
  cases cfg.gen <;> simp <;> rfl

theorem mem_basePairs (cfg : Cfg) (fw : FW) (p : Str × Str) :
    p ∈ basePairs cfg fw ↔ ∃ src ∈ sources cfg fw, p.2 = body cfg fw src ∧ p.1 ∈ dashesOf fw src := by
  obtain ⟨d, b⟩ := p
  -- in code order: every candidate behind each dash of a generated name, then the alias pairs
  have hcode : (d, b) ∈ basePairs cfg fw ↔
      (b ∈ candidates cfg fw ∧ d ∈ dashesOf fw .flatName) ∨ ∃ a ∈ fw.aliases, aliasPair fw.pref a = (d, b) := by
    unfold basePairs dashesOf dashFor
    split <;> simp only [List.mem_append, List.mem_map, Prod.mk.injEq, exists_eq_right_right, List.mem_cons,
      List.not_mem_nil, or_false, and_or_left, eq_comm (b := d)]
  rw [hcode, mem_candidates]
  constructor
  · rintro (⟨⟨hg, rfl⟩ | ⟨hg, rfl⟩, hd⟩ | ⟨a, ha, h⟩)
    · exact ⟨.flatName, (mem_sources ..).mpr (.inl ⟨hg, rfl⟩), rfl, hd⟩
    · exact ⟨.nestedName, (mem_sources ..).mpr (.inr (.inl ⟨hg, rfl⟩)), rfl, hd⟩
    · exact ⟨.alias a, (mem_sources ..).mpr (.inr (.inr ⟨a, ha, rfl⟩)), congrArg Prod.snd h.symm,
        List.mem_singleton.mpr (congrArg Prod.fst h.symm)⟩
  · rintro ⟨src, hsrc, hb, hd⟩
    rcases (mem_sources ..).mp hsrc with ⟨hg, rfl⟩ | ⟨hg, rfl⟩ | ⟨a, ha, rfl⟩
    · exact .inl ⟨.inl ⟨hg, hb⟩, hd⟩
    · exact .inl ⟨.inr ⟨hg, hb⟩, hd⟩
    · exact .inr ⟨a, ha, Prod.ext (List.mem_singleton.mp hd).symm hb.symm⟩

theorem mem_extraPairs (cfg : Cfg) (fw : FW) (q : Str × Str) :
    q ∈ extraPairs cfg fw ↔ cfg.dash = .both ∧
      ∃ p ∈ basePairs cfg fw, hasUnderscore p.2 = true ∧ (dashFor (dashify p.2), dashify p.2) = q := by
  unfold extraPairs
  split
  · simp only [List.mem_map, List.mem_filter, and_assoc, true_and, *]
  · simp only [List.not_mem_nil, false_and, *]

theorem two_dashes_mem_dashesOf (fw : FW) : ['-', '-'] ∈ dashesOf fw .flatName := by
  simp only [dashesOf]
  split
  · exact .tail _ (.head _)
  · exact .head _

theorem exists_mem_dashesOf (fw : FW) (src : Src) : ∃ d, d ∈ dashesOf fw src := by
  rcases src with _ | _ | a
  · exact ⟨_, two_dashes_mem_dashesOf fw⟩
  · exact ⟨_, two_dashes_mem_dashesOf fw⟩
  · exact ⟨_, .head _⟩

/-- **C10, exact characterisation**: the option strings the code generates for a (non-positional)
    field are exactly those the documented rule allows — nothing missing, nothing extra — for every
    one of the 3 × 3 × 2 mode combinations, every name, prefix, destination and alias list. -/
theorem c10_exact (cfg : Cfg) (fw : FW) (hpos : fw.positional = false) (s : Str) :
    s ∈ optionList cfg fw ↔ Spec cfg fw s := by
  unfold optionList Spec
  simp only [hpos, Bool.false_eq_true, ↓reduceIte, List.map_append, List.mem_append, List.mem_map,
    mem_extraPairs, mem_basePairs]
  constructor
  · rintro (⟨p, ⟨src, hsrc, hb, hd⟩, rfl⟩ | ⟨_, ⟨hboth, p, ⟨src, hsrc, hb, _⟩, hu, rfl⟩, rfl⟩)
    · exact ⟨src, hsrc, .inl ⟨p.1, hd, by rw [hb]⟩⟩
    · exact ⟨src, hsrc, .inr ⟨hboth, hb ▸ hu, by rw [hb]⟩⟩
  · rintro ⟨src, hsrc, ⟨d, hd, rfl⟩ | ⟨hboth, hu, rfl⟩⟩
    · exact .inl ⟨(d, body cfg fw src), ⟨src, hsrc, rfl, hd⟩, rfl⟩
    · -- the variant comes from a base pair, which needs some dash in front of the body
      obtain ⟨d, hd⟩ := exists_mem_dashesOf fw src
      exact .inr ⟨_, ⟨hboth, (d, body cfg fw src), ⟨src, hsrc, rfl, hd⟩, hu, rfl⟩, rfl⟩

/-- **bridge model → rule**: the option strings handed to `add_argument` (after the de-duplication
    and the sort by length) are exactly the spellings the rule allows. -/
theorem c10_optionStrings_iff (cfg : Cfg) (fw : FW) (hpos : fw.positional = false) (o : Str) :
    o ∈ optionStrings cfg fw ↔ Spec cfg fw o := by
  unfold optionStrings
  simp only [hpos, Bool.false_eq_true, ↓reduceIte]
  rw [(sortByLen_perm _).mem_iff, mem_dedup, c10_exact cfg fw hpos]

theorem dashFor_long {x : Str} (h : x.length ≠ 1) : dashFor x = ['-', '-'] := if_neg h

theorem dashFor_cases (x : Str) : dashFor x = ['-'] ∨ dashFor x = ['-', '-'] := by
  unfold dashFor
  split
  · exact Or.inl rfl
  · exact Or.inr rfl

theorem aliasPair_fst (pref a : Str) :
    (aliasPair pref a).1 = ['-'] ∨ (aliasPair pref a).1 = ['-', '-'] := by
  unfold aliasPair
  split
  · exact Or.inr rfl
  · exact Or.inl rfl
  · exact dashFor_cases _

theorem dashesOf_cases {fw : FW} {src : Src} {d : Str} (hd : d ∈ dashesOf fw src) :
    d = ['-'] ∨ d = ['-', '-'] := by
  unfold dashesOf at hd
  split at hd
  · exact List.mem_singleton.mp hd ▸ aliasPair_fst _ _
  · split at hd
    · simpa using hd
    · exact .inr (List.mem_singleton.mp hd)

theorem spec_shape {cfg : Cfg} {fw : FW} {s : Str} (h : Spec cfg fw s) :
    ∃ src ∈ sources cfg fw, ∃ d b, s = d ++ b ∧ (d = ['-'] ∨ d = ['-', '-']) ∧
      (b = body cfg fw src ∨ b = dashify (body cfg fw src)) := by
  obtain ⟨src, hsrc, ⟨d, hd, rfl⟩ | ⟨_, _, rfl⟩⟩ := h
  · exact ⟨src, hsrc, d, _, rfl, dashesOf_cases hd, .inl rfl⟩
  · exact ⟨src, hsrc, _, _, rfl, dashFor_cases _, .inr rfl⟩

/-- every spelling the rule allows starts with a dash -/
theorem spec_dash {cfg : Cfg} {fw : FW} {o : Str} (h : Spec cfg fw o) : ∃ r, o = '-' :: r := by
  obtain ⟨_, _, d, b, rfl, rfl | rfl, _⟩ := spec_shape h <;> exact ⟨_, rfl⟩

theorem dashify_no_underscore (s : Str) : hasUnderscore (dashify s) = false := by
  simp only [hasUnderscore, dashify, List.contains_eq_mem, List.mem_map, decide_eq_false_iff_not,
    not_exists, not_and]
  intro c _
  split <;> simp [*]

theorem dashify_idem (s : Str) : dashify (dashify s) = dashify s := by
  simp only [dashify, List.map_map]
  apply List.map_congr_left
  intro c _
  by_cases h : c = '_' <;> simp [h]

theorem dashify_of_no_underscore (s : Str) (h : hasUnderscore s = false) : dashify s = s := by
  simp only [hasUnderscore, List.contains_eq_mem, decide_eq_false_iff_not] at h
  unfold dashify
  conv => rhs; rw [← List.map_id s]
  apply List.map_congr_left
  intro c hc
  have : c ≠ '_' := fun hh => h (hh ▸ hc)
  simp [this]

theorem dashify_length (s : Str) : (dashify s).length = s.length := List.length_map _

theorem dashFor_dashify (s : Str) : dashFor (dashify s) = dashFor s := by
  rw [dashFor, dashify_length]
  rfl

theorem hasUnderscore_append (a b : Str) :
    hasUnderscore (a ++ b) = (hasUnderscore a || hasUnderscore b) :=
  List.contains_append

theorem dashify_eq_nil (s : Str) (h : dashify s = []) : s = [] :=
  List.map_eq_nil_iff.mp h

theorem dashify_eq_dash (s : Str) (h : dashify s = ['-']) : s = ['_'] ∨ s = ['-'] := by
  obtain ⟨c, rfl, hc⟩ := List.map_eq_singleton_iff.mp h
  by_cases h_ : c = '_'
  · exact .inl (h_ ▸ rfl)
  · exact .inr (by rw [← hc, if_neg h_])

/-! ### Consequences in the property's own words -/

/-- The option list in code order, without aliases and for a name that is not one letter.  Once the modes are fixed
    both sides compute: each explicit list below is this statement read at its modes. -/
theorem optionList_generated (cfg : Cfg) (fw : FW) (hpos : fw.positional = false)
    (hlen : fw.name.length ≠ 1) (hal : fw.aliases = []) :
    optionList cfg fw = (candidates cfg fw).map (['-', '-'] ++ ·) ++
      if cfg.dash = .both then
        ((candidates cfg fw).filter hasUnderscore).map (fun c => dashFor (dashify c) ++ dashify c)
      else [] := by
  have hbase : basePairs cfg fw = (candidates cfg fw).map (fun c => (['-', '-'], c)) := by
    simp only [basePairs, dashFor, hlen, hal, ↓reduceIte, List.map_nil, List.append_nil]
  simp only [optionList, hpos, extraPairs, hbase, Bool.false_eq_true, ↓reduceIte, List.map_append, List.map_map,
    List.filter_map, apply_ite (List.map _), List.map_nil]
  rfl

/-- UNDERSCORE keeps the name: the flat option of a field is exactly `--<prefix><name>`. -/
theorem c10_underscore_flat (fw : FW) (nest : Nest) (hpos : fw.positional = false)
    (hlen : fw.name.length ≠ 1) (hal : fw.aliases = []) :
    optionList ⟨.underscore, .flat, nest⟩ fw = [['-', '-'] ++ (fw.pref ++ fw.name)] :=
  optionList_generated _ fw hpos hlen hal

/-- NESTED: the only generated option is the destination path (root dropped under WITHOUT_ROOT). -/
theorem c10_underscore_nested (fw : FW) (nest : Nest) (hpos : fw.positional = false)
    (hlen : fw.name.length ≠ 1) (hal : fw.aliases = []) :
    optionList ⟨.underscore, .nested, nest⟩ fw =
      [['-', '-'] ++ nestedPath ⟨.underscore, .nested, nest⟩ fw] :=
  optionList_generated _ fw hpos hlen hal

/-- BOTH: exactly the flat and the nested spelling. -/
theorem c10_underscore_both (fw : FW) (nest : Nest) (hpos : fw.positional = false)
    (hlen : fw.name.length ≠ 1) (hal : fw.aliases = []) :
    optionList ⟨.underscore, .both, nest⟩ fw =
      [['-', '-'] ++ (fw.pref ++ fw.name), ['-', '-'] ++ nestedPath ⟨.underscore, .both, nest⟩ fw] :=
  optionList_generated _ fw hpos hlen hal

/-- DASH + FLAT: the only option is `--<name with dashes>` -/
theorem c10_dash_flat (fw : FW) (nest : Nest) (hpos : fw.positional = false)
    (hlen : fw.name.length ≠ 1) (hal : fw.aliases = []) :
    optionList ⟨.dashOnly, .flat, nest⟩ fw = [['-', '-'] ++ dashify (fw.pref ++ fw.name)] :=
  optionList_generated _ fw hpos hlen hal

/-- DASH + NESTED: the only option is `--<path with dashes>` -/
theorem c10_dash_nested (fw : FW) (nest : Nest) (hpos : fw.positional = false)
    (hlen : fw.name.length ≠ 1) (hal : fw.aliases = []) :
    optionList ⟨.dashOnly, .nested, nest⟩ fw =
      [['-', '-'] ++ dashify (nestedPath ⟨.dashOnly, .nested, nest⟩ fw)] :=
  optionList_generated _ fw hpos hlen hal

/-- UNDERSCORE_AND_DASH + FLAT, a name with an underscore: exactly the two spellings -/
theorem c10_both_flat (fw : FW) (nest : Nest) (hpos : fw.positional = false) (hp : fw.pref = [])
    (hlen : fw.name.length ≠ 1) (hal : fw.aliases = []) (hu : hasUnderscore fw.name = true) :
    optionList ⟨.both, .flat, nest⟩ fw =
      [['-', '-'] ++ fw.name, ['-', '-'] ++ dashify fw.name] := by
  simp [optionList_generated _ fw hpos hlen hal, candidates, flatCand, hp, hu, dashFor, dashify_length, hlen]

/-- UNDERSCORE_AND_DASH + FLAT, a name without underscore: just `--name` -/
theorem c10_both_flat_plain (fw : FW) (nest : Nest) (hpos : fw.positional = false) (hp : fw.pref = [])
    (hlen : fw.name.length ≠ 1) (hal : fw.aliases = []) (hu : hasUnderscore fw.name = false) :
    optionList ⟨.both, .flat, nest⟩ fw = [['-', '-'] ++ fw.name] := by
  simp [optionList_generated _ fw hpos hlen hal, candidates, flatCand, hp, hu]

/-- a one-letter name `c` (not `_`) in FLAT mode: `-c` and `--c`, whatever the dash variant -/
theorem c10_one_letter_flat (dash : Dash) (nest : Nest) (fw : FW) (c : Char) (hpos : fw.positional = false)
    (hp : fw.pref = []) (hname : fw.name = [c]) (hc : c ≠ '_') (hal : fw.aliases = []) :
    optionList ⟨dash, .flat, nest⟩ fw = [['-', c], ['-', '-', c]] := by
  have hc' : ¬ '_' = c := fun h => hc h.symm
  simp [optionList, hpos, basePairs, extraPairs, candidates, flatCand, dashFor, hal, hp, hname,
    hasUnderscore, dashify, hc, hc']

/-- DASH: no *generated* option keeps an underscore (aliases are left as declared). -/
theorem c10_dash_generated_no_underscore (gen : Gen) (nest : Nest) (fw : FW) (c : Str)
    (h : c ∈ candidates ⟨.dashOnly, gen, nest⟩ fw) : hasUnderscore c = false := by
  rcases (mem_candidates ..).mp h with ⟨_, rfl⟩ | ⟨_, rfl⟩ <;> exact dashify_no_underscore _

/-- DASH: an accepted option string that still contains an underscore is a declared alias, offered
    as declared; every generated spelling is underscore-free. -/
theorem c10_dash_alias_kept (gen : Gen) (nest : Nest) (fw : FW) (hpos : fw.positional = false)
    (s : Str) (hs : s ∈ optionList ⟨.dashOnly, gen, nest⟩ fw) (hu : hasUnderscore s = true) :
    ∃ a ∈ fw.aliases, s = (aliasPair fw.pref a).1 ++ (aliasPair fw.pref a).2 := by
  rw [c10_exact _ fw hpos] at hs
  obtain ⟨src, hsrc, ⟨d, hd, rfl⟩ | ⟨hb, _⟩⟩ := hs
  · -- dashes in front of a dashed name: no underscore, so the source is no generated name
    have hgen : ∀ x, hasUnderscore (d ++ dashify x) = false := by
      intro x
      rw [hasUnderscore_append, dashify_no_underscore]
      rcases dashesOf_cases hd with rfl | rfl <;> rfl
    rcases (mem_sources ..).mp hsrc with ⟨_, rfl⟩ | ⟨_, rfl⟩ | ⟨a, ha, rfl⟩
    · exact absurd ((hgen _).symm.trans hu) Bool.false_ne_true
    · exact absurd ((hgen _).symm.trans hu) Bool.false_ne_true
    · exact ⟨a, ha, by rw [List.mem_singleton.mp hd]; rfl⟩
  · cases hb

/-- DASH (restating `c10_dash_generated_no_underscore` on the option strings themselves): without
    aliases NO accepted option string contains an underscore -/
theorem c10_dash_option_no_underscore (gen : Gen) (nest : Nest) (fw : FW) (hpos : fw.positional = false)
    (hal : fw.aliases = []) (s : Str) (hs : s ∈ optionList ⟨.dashOnly, gen, nest⟩ fw) :
    hasUnderscore s = false := by
  cases hu : hasUnderscore s with
  | false => rfl
  | true =>
    obtain ⟨a, ha, _⟩ := c10_dash_alias_kept gen nest fw hpos s hs hu
    rw [hal] at ha
    cases ha

/-- UNDERSCORE_AND_DASH accepts both spellings of every name and alias: whenever `d ++ b` is
    offered and `b` contains an underscore, the dashed spelling of `b` is offered too. -/
theorem c10_both_closed (gen : Gen) (nest : Nest) (fw : FW) (hpos : fw.positional = false)
    (p : Str × Str) (hp : p ∈ basePairs ⟨.both, gen, nest⟩ fw) (hu : hasUnderscore p.2 = true) :
    (dashFor (dashify p.2) ++ dashify p.2) ∈ optionList ⟨.both, gen, nest⟩ fw := by
  obtain ⟨src, hsrc, hb, _⟩ := (mem_basePairs ..).mp hp
  rw [hb] at hu ⊢
  exact (c10_exact _ fw hpos _).mpr ⟨src, hsrc, .inr ⟨rfl, hu, rfl⟩⟩

/-- UNDERSCORE and DASH add no variant spellings at all. -/
theorem c10_no_extra (cfg : Cfg) (fw : FW) (h : cfg.dash ≠ .both) : extraPairs cfg fw = [] := by
  simp [extraPairs, h]

/-- UNDERSCORE_AND_DASH, in the rule's vocabulary (restating `c10_both_closed` on `optionList`):
    every source offered with two dashes whose body is not one letter is accepted in BOTH
    spellings, `--body` and `--<body with dashes>` -/
theorem c10_both_spellings (cfg : Cfg) (hboth : cfg.dash = .both) (fw : FW) (hpos : fw.positional = false)
    (src : Src) (hsrc : src ∈ sources cfg fw) (hd : ['-', '-'] ∈ dashesOf fw src)
    (hl : (body cfg fw src).length ≠ 1) :
    (['-', '-'] ++ body cfg fw src) ∈ optionList cfg fw ∧
    (['-', '-'] ++ dashify (body cfg fw src)) ∈ optionList cfg fw := by
  have h1 : (['-', '-'] ++ body cfg fw src) ∈ optionList cfg fw :=
    (c10_exact _ fw hpos _).mpr ⟨src, hsrc, .inl ⟨_, hd, rfl⟩⟩
  refine ⟨h1, ?_⟩
  cases hu : hasUnderscore (body cfg fw src) with
  | false => rw [dashify_of_no_underscore _ hu]; exact h1
  | true =>
    refine (c10_exact _ fw hpos _).mpr ⟨src, hsrc, .inr ⟨hboth, hu, ?_⟩⟩
    rw [dashFor_dashify, dashFor_long hl]

/-- … for the field's own name: `--n` and `--<n with dashes>` are both accepted (FLAT or BOTH) -/
theorem c10_both_name_spellings (gen : Gen) (nest : Nest) (fw : FW) (hpos : fw.positional = false)
    (hp : fw.pref = []) (hg : gen ≠ .nested) (hlen : fw.name.length ≠ 1) :
    (['-', '-'] ++ fw.name) ∈ optionList ⟨.both, gen, nest⟩ fw ∧
    (['-', '-'] ++ dashify fw.name) ∈ optionList ⟨.both, gen, nest⟩ fw := by
  have := c10_both_spellings ⟨.both, gen, nest⟩ rfl fw hpos .flatName
    ((mem_sources ..).mpr (.inl ⟨hg, rfl⟩)) (two_dashes_mem_dashesOf fw)
  simp only [body, genSpell, hp] at this
  exact this hlen

/-- … and for the nested path `d` (NESTED or BOTH): `--d` and `--<d with dashes>` -/
theorem c10_both_path_spellings (gen : Gen) (nest : Nest) (fw : FW) (hpos : fw.positional = false)
    (hg : gen ≠ .flat) (hlen : fw.name.length ≠ 1)
    (hl : (nestedPath ⟨.both, gen, nest⟩ fw).length ≠ 1) :
    (['-', '-'] ++ nestedPath ⟨.both, gen, nest⟩ fw) ∈ optionList ⟨.both, gen, nest⟩ fw ∧
    (['-', '-'] ++ dashify (nestedPath ⟨.both, gen, nest⟩ fw)) ∈ optionList ⟨.both, gen, nest⟩ fw :=
  c10_both_spellings ⟨.both, gen, nest⟩ rfl fw hpos .nestedName
    ((mem_sources ..).mpr (.inr (.inl ⟨hg, rfl⟩))) (two_dashes_mem_dashesOf fw) hl

/-! ### WITHOUT_ROOT removes exactly the first path component -/

theorem splitOnChar_of_not_mem (sep : Char) (s : Str) (h : sep ∉ s) : splitOnChar sep s = [s] :=
  SpVerif.splitOnChar_of_not_mem sep s h

/-- `dest = root.rest` with a dot-free root ⇒ the WITHOUT_ROOT path is exactly `rest`, at any depth. -/
theorem c10_without_root (root rest : Str) (h : '.' ∉ root) :
    dropRoot (root ++ '.' :: rest) = rest := by
  unfold dropRoot
  rw [splitOnChar_append_sep_of_not_mem _ _ _ h]
  exact joinWith_splitOnChar '.' rest

theorem aliasPair_2dash (pref n : Str) : aliasPair pref ('-' :: '-' :: n) = (['-', '-'], pref ++ n) :=
  rfl

theorem aliasPair_1dash (pref n : Str) (h : n.head? ≠ some '-') :
    aliasPair pref ('-' :: n) = (['-'], pref ++ n) :=
  aliasPair.eq_2 pref n fun _ hn => h (hn ▸ rfl)

theorem aliasPair_0dash (pref a : Str) (h : a.head? ≠ some '-') :
    aliasPair pref a = (dashFor a, pref ++ a) :=
  aliasPair.eq_3 pref a (fun _ hn => h (hn ▸ rfl)) (fun _ hn => h (hn ▸ rfl))

/-- whatever the modes, the (dash, name) pair of every declared alias is offered -/
theorem alias_mem_optionList (cfg : Cfg) (fw : FW) (hpos : fw.positional = false) (a : Str)
    (ha : a ∈ fw.aliases) :
    (aliasPair fw.pref a).1 ++ (aliasPair fw.pref a).2 ∈ optionList cfg fw :=
  (c10_exact cfg fw hpos _).mpr ⟨.alias a, (mem_sources ..).mpr (.inr (.inr ⟨a, ha, rfl⟩)),
    .inl ⟨_, List.mem_singleton_self _, rfl⟩⟩

theorem aliasPair_spelling (a : Str) :
    (aliasPair [] a).1 ++ (aliasPair [] a).2 = if a.head? = some '-' then a else dashFor a ++ a := by
  unfold aliasPair
  split
  · rfl
  · rfl
  · rename_i h2 h1
    rw [if_neg]
    · rfl
    · intro hh
      cases a with
      | nil => cases hh
      | cons c cs => cases hh; exact h1 cs rfl

/-- a declared alias is accepted exactly as declared if it starts with one or two dashes, and with
    `-` (one letter) or `--` in front of it if it has none — in all 18 mode combinations, DASH
    included (aliases are never rewritten) -/
theorem c10_alias_kept (cfg : Cfg) (fw : FW) (hpos : fw.positional = false) (hp : fw.pref = [])
    (a : Str) (ha : a ∈ fw.aliases) :
    (if a.head? = some '-' then a else dashFor a ++ a) ∈ optionList cfg fw := by
  have h := alias_mem_optionList cfg fw hpos a ha
  rwa [hp, aliasPair_spelling] at h

/-- an alias declared with two dashes is accepted exactly as declared -/
theorem c10_alias_2dash_kept (cfg : Cfg) (fw : FW) (hpos : fw.positional = false)
    (hp : fw.pref = []) (n : Str) (ha : ('-' :: '-' :: n) ∈ fw.aliases) :
    ('-' :: '-' :: n) ∈ optionList cfg fw :=
  c10_alias_kept cfg fw hpos hp _ ha

/-- an alias declared with one dash is accepted exactly as declared, in every mode -/
theorem c10_alias_1dash_kept (cfg : Cfg) (fw : FW) (hpos : fw.positional = false)
    (hp : fw.pref = []) (n : Str) (hn : n.head? ≠ some '-') (ha : ('-' :: n) ∈ fw.aliases) :
    ('-' :: n) ∈ optionList cfg fw :=
  c10_alias_kept cfg fw hpos hp _ ha

/-- under UNDERSCORE_AND_DASH the dashed variant of every alias pair is offered -/
theorem alias_variant_mem_optionList (gen : Gen) (nest : Nest) (fw : FW) (hpos : fw.positional = false)
    (a : Str) (ha : a ∈ fw.aliases) (hu : hasUnderscore (aliasPair fw.pref a).2 = true) :
    dashFor (aliasPair fw.pref a).2 ++ dashify (aliasPair fw.pref a).2 ∈
      optionList ⟨.both, gen, nest⟩ fw := by
  rw [c10_exact _ fw hpos]
  refine ⟨.alias a, (mem_sources ..).mpr (.inr (.inr ⟨a, ha, rfl⟩)), .inr ⟨rfl, hu, ?_⟩⟩
  rw [dashFor_dashify]
  rfl

/-- What the code does with a ONE-dash multi-letter alias `-x_y` under UNDERSCORE_AND_DASH: the
    variant is given TWO dashes (`--x-y`), because the dash count of a variant is recomputed from
    its length (field_wrapper.py:641-645) — see the open finding `C10-short-alias-variant`. -/
theorem c10_alias_1dash_variant_actual (gen : Gen) (nest : Nest) (fw : FW) (hpos : fw.positional = false)
    (hp : fw.pref = []) (n : Str) (hn : n.head? ≠ some '-') (ha : ('-' :: n) ∈ fw.aliases)
    (hu : hasUnderscore n = true) (hl : n.length ≠ 1) :
    ('-' :: '-' :: dashify n) ∈ optionList ⟨.both, gen, nest⟩ fw := by
  have hv := alias_variant_mem_optionList gen nest fw hpos _ ha
  simp only [hp, aliasPair_1dash _ _ hn, List.nil_append, dashFor_long hl] at hv
  exact hv hu

/-! ### "no other spelling is accepted": the engine rejects every long spelling that is neither an
    option string of the table nor an abbreviation of one (argparse's lookup, modelled in
    `Model/Engine.classify`); `c10_exact` says which strings the table holds. -/

theorem startsWith_of_append (o a b : Str) (h : startsWith o (a ++ b) = true) :
    startsWith o a = true := by
  induction a generalizing o with
  | nil => cases o <;> rfl
  | cons c cs ih =>
    cases o with
    | nil => simp [startsWith] at h
    | cons d ds =>
      simp only [List.cons_append, startsWith, Bool.and_eq_true] at h ⊢
      exact ⟨h.1, ih ds h.2⟩

theorem splitEq_ne_none (a : Str) (h : '=' ∈ a) : splitEq a ≠ none := by
  obtain ⟨as, bs, rfl, has⟩ := List.eq_append_cons_of_mem h
  rw [splitEq_append as bs has]
  exact Option.some_ne_none _

/-- **C10 (no other spelling is accepted).** Whatever the table (any number of fields, any modes):
    a command line that carries, before any literal `--`, a long spelling `--r` (no `=`, no blank)
    that is not a prefix of — in particular not equal to — any option string of any action is never
    accepted by `parse_args`: not with any other tokens around it, not with any closure state.
    Together with `c10_exact` (which strings the actions carry) this is the "and no other spelling"
    half of the property, up to argparse's prefix abbreviations. -/
theorem c10_no_other_spelling (fenv : FEnv) (tbl : List Act) (cs : List Nat)
    (pre post : List Str) (r : Str) (hr : r ≠ [])
    (hdd : ∀ x ∈ pre, x ≠ ['-', '-'])
    (heq : splitEq ('-' :: '-' :: r) = none)
    (hsp : (('-' :: '-' :: r).contains ' ') = false)
    (hpre : ∀ a ∈ tbl, ∀ o ∈ a.opts, startsWith o ('-' :: '-' :: r) = false)
    (ns : List (Str × Val)) (ex : List Str) (cs' : List Nat) :
    runStrict fenv tbl cs (pre ++ ('-' :: '-' :: r) :: post) ≠ .ok ns ex cs' :=
  C04.c04_unknown_long_rejected fenv tbl cs pre post r hr hdd heq hsp hpre ns ex cs'

/-- non-vacuity: `--a-b` is rejected by a parser that only knows `--a_b` (and help) … -/
example : ∀ ns ex cs', runStrict []
    [ helpAct,
      { opts := ["--a_b".toList], dest := "c.a_b".toList, kind := .store, nargs := .one, conv := .base .int,
        choices := none, required := false, default := some (.sc (.int 0)) } ] [0, 0]
    (["--a-b".toList, "3".toList]) ≠ .ok ns ex cs' := by
  simp only [String.toList_lit rfl]
  exact c10_no_other_spelling [] _ [0, 0] [] _ ['a', '-', 'b'] (List.cons_ne_nil _ _) (List.forall_mem_nil _)
    (by decide) (by decide) (by decide_lit)

/-- … while `--a` is an abbreviation and is accepted (why the hypothesis speaks of prefixes) -/
example : runStrict []
    [ helpAct,
      { opts := ["--a_b".toList], dest := "c.a_b".toList, kind := .store, nargs := .one, conv := .base .int,
        choices := none, required := false, default := some (.sc (.int 0)) } ] [0, 0]
    (["--a".toList, "3".toList]) = .ok [("c.a_b".toList, .sc (.int 3))] [] [0, 0] := by decide_lit

/-- **C10 (no other spelling, `=` form).** `--r=v` is never accepted either when `--r` is a prefix
    of no option string of any action. -/
theorem c10_no_other_spelling_eq (fenv : FEnv) (tbl : List Act) (cs : List Nat)
    (pre post : List Str) (r v : Str) (hr : '=' ∉ r)
    (hdd : ∀ x ∈ pre, x ≠ ['-', '-'])
    (hsp : (('-' :: '-' :: (r ++ '=' :: v)).contains ' ') = false)
    (hpre : ∀ a ∈ tbl, ∀ o ∈ a.opts, startsWith o ('-' :: '-' :: r) = false)
    (ns : List (Str × Val)) (ex : List Str) (cs' : List Nat) :
    runStrict fenv tbl cs (pre ++ ('-' :: '-' :: (r ++ '=' :: v)) :: post) ≠ .ok ns ex cs' := by
  have hr' : '=' ∉ '-' :: '-' :: r := by
    simp only [List.mem_cons, not_or]
    exact ⟨by decide, by decide, hr⟩
  exact C04.unknown_option_rejected fenv tbl cs pre post _ hdd (by simp)
    (C04.classify_unknown_long tbl _ _ (startsWith_append_self ('-' :: '-' :: r) ('=' :: v))
      (.inr ⟨v, splitEq_append _ v hr'⟩) hsp hpre) ns ex cs'

/-- non-vacuity: `--a-b=3` is rejected by a parser that only knows `--a_b` -/
example : ∀ ns ex cs', runStrict []
    [ helpAct,
      { opts := ["--a_b".toList], dest := "c.a_b".toList, kind := .store, nargs := .one, conv := .base .int,
        choices := none, required := false, default := some (.sc (.int 0)) } ] [0, 0]
    (["--a-b=3".toList]) ≠ .ok ns ex cs' := by
  simp only [String.toList_lit rfl]
  exact c10_no_other_spelling_eq [] _ [0, 0] [] [] ['a', '-', 'b'] ['3'] (by decide) (List.forall_mem_nil _)
    (by decide) (by decide_lit)

/-! ### The composite over the table simple-parsing builds for a flat dataclass -/

/-- the `FieldWrapper` data of field `f` of a dataclass registered at `dest` (as in `Fields.fieldAct`) -/
def fwOf (dest : Str) (f : FieldSpec) : FW :=
  { name := f.name, pref := [], dest := dest ++ '.' :: f.name, aliases := f.aliases }

/-- the negative option strings of a boolean field (none for every other field) -/
def negsOf (cfg : Cfg) (dest : Str) (f : FieldSpec) : List Str :=
  match argOptions f with
  | some ao =>
    if ao.isBool then (negStrings (optionStrings cfg (fwOf dest f)) "--no".toList none []).getD [] else []
  | none => []

theorem fieldAct_opts {cfg : Cfg} {dest : Str} {f : FieldSpec} {a : Act}
    (h : fieldAct cfg dest f = some a) (o : Str) :
    o ∈ a.opts ↔ (Spec cfg (fwOf dest f) o ∨ o ∈ negsOf cfg dest f) := by
  -- `fieldAct` maps over `argOptions f`; nothing about the answer `ao` but `isBool` matters here
  obtain ⟨ao, hao, rfl⟩ := Option.map_eq_some_iff.mp h
  unfold negsOf
  rw [hao, ← c10_optionStrings_iff cfg (fwOf dest f) rfl]
  exact List.mem_append

theorem spec_or_negs_iff {cfg : Cfg} {dest : Str} {f : FieldSpec} {l : List Str}
    (hl : optionList cfg (fwOf dest f) = l) (hnegs : negsOf cfg dest f = []) (o : Str) :
    (Spec cfg (fwOf dest f) o ∨ o ∈ negsOf cfg dest f) ↔ o ∈ l := by
  rw [hnegs, ← hl, c10_exact cfg _ rfl]
  exact or_iff_left List.not_mem_nil

theorem tableOf_no_prefix {cfg : Cfg} {dest : Str} {fs : List FieldSpec} {tbl : List Act}
    (htbl : tableOf cfg dest fs = some tbl) {r : Str}
    (hhelp : startsWith "--help".toList ('-' :: '-' :: r) = false)
    (hspec : ∀ f ∈ fs, ∀ o, (Spec cfg (fwOf dest f) o ∨ o ∈ negsOf cfg dest f) →
      startsWith o ('-' :: '-' :: r) = false) :
    ∀ a ∈ tbl, ∀ o ∈ a.opts, startsWith o ('-' :: '-' :: r) = false := by
  intro a ha o ho
  rcases C04.tableOf_mem cfg dest fs tbl htbl a ha with rfl | ⟨f, hf, hfa⟩
  · simp only [helpAct, List.mem_cons, List.not_mem_nil, or_false] at ho
    -- `rw`, not `rfl` patterns: substituting would evaluate the literals `"-h"`, `"--help"`
    rcases ho with ho | ho <;> rw [ho]
    · rfl_lit
    · exact hhelp
  · exact hspec f hf o ((fieldAct_opts hfa o).mp ho)

/-- **C10 (no other spelling, for the table of a dataclass).** For the parser simple-parsing builds
    for a flat dataclass (`tableOf`: built-in help + one action per field whose option strings are
    `optionStrings cfg …`), in every one of the 18 mode combinations: a long spelling `--r` that is
    a prefix neither of `--help`, nor of a spelling the rule `Spec` allows for some field, nor of a
    negative flag string, is never accepted — wherever it stands on the command line. -/
theorem c10_flat_no_other_spelling (fenv : FEnv) (cfg : Cfg) (dest : Str) (fs : List FieldSpec)
    (tbl : List Act) (htbl : tableOf cfg dest fs = some tbl) (cs : List Nat)
    (pre post : List Str) (r : Str) (hr : r ≠ [])
    (hdd : ∀ x ∈ pre, x ≠ ['-', '-'])
    (heq : splitEq ('-' :: '-' :: r) = none)
    (hsp : (('-' :: '-' :: r).contains ' ') = false)
    (hhelp : startsWith "--help".toList ('-' :: '-' :: r) = false)
    (hspec : ∀ f ∈ fs, ∀ o, (Spec cfg (fwOf dest f) o ∨ o ∈ negsOf cfg dest f) →
      startsWith o ('-' :: '-' :: r) = false)
    (ns : List (Str × Val)) (ex : List Str) (cs' : List Nat) :
    runStrict fenv tbl cs (pre ++ ('-' :: '-' :: r) :: post) ≠ .ok ns ex cs' :=
  c10_no_other_spelling fenv tbl cs pre post r hr hdd heq hsp
    (tableOf_no_prefix htbl hhelp hspec) ns ex cs'

/-- the same for the `--r=v` form -/
theorem c10_flat_no_other_spelling_eq (fenv : FEnv) (cfg : Cfg) (dest : Str) (fs : List FieldSpec)
    (tbl : List Act) (htbl : tableOf cfg dest fs = some tbl) (cs : List Nat)
    (pre post : List Str) (r v : Str) (hr : '=' ∉ r)
    (hdd : ∀ x ∈ pre, x ≠ ['-', '-'])
    (hsp : (('-' :: '-' :: (r ++ '=' :: v)).contains ' ') = false)
    (hhelp : startsWith "--help".toList ('-' :: '-' :: r) = false)
    (hspec : ∀ f ∈ fs, ∀ o, (Spec cfg (fwOf dest f) o ∨ o ∈ negsOf cfg dest f) →
      startsWith o ('-' :: '-' :: r) = false)
    (ns : List (Str × Val)) (ex : List Str) (cs' : List Nat) :
    runStrict fenv tbl cs (pre ++ ('-' :: '-' :: (r ++ '=' :: v)) :: post) ≠ .ok ns ex cs' :=
  c10_no_other_spelling_eq fenv tbl cs pre post r v hr hdd hsp
    (tableOf_no_prefix htbl hhelp hspec) ns ex cs'

theorem lookup_map_opts (opts : List Str) (i : Nat) (o : Str) :
    (opts.map (fun x => (x, i))).lookup o = if o ∈ opts then some i else none := by
  induction opts with
  | nil => simp
  | cons x xs ih =>
    by_cases h : o = x
    · subst h; simp
    · have : (o == x) = false := by simpa using h
      simp only [List.map_cons, List.lookup, this, ih, List.mem_cons, h, false_or]

theorem lookup_flatMap_opts (l : List (Act × Nat)) (o : Str) : ∀ (n : Nat) (a : Act) (i : Nat),
    l[n]? = some (a, i) → o ∈ a.opts → (∀ m < n, ∀ q, l[m]? = some q → o ∉ q.1.opts) →
    (l.flatMap (fun p => p.1.opts.map (fun o => (o, p.2)))).lookup o = some i := by
  induction l with
  | nil => intro n a i h; cases h
  | cons q qs ih =>
    intro n a i h ho hfirst
    rw [List.flatMap_cons, List.lookup_append, lookup_map_opts]
    cases n with
    | zero =>
      cases h
      rw [if_pos ho]
      rfl
    | succ n =>
      rw [if_neg (hfirst 0 (Nat.succ_pos n) q rfl)]
      exact ih n a i h ho (fun m hm => hfirst (m + 1) (Nat.succ_lt_succ hm))

/-- argparse's `_option_string_actions[o]` is the FIRST action carrying `o` -/
theorem optTable_lookup_first {tbl : List Act} {i : Nat} {a : Act} {o : Str}
    (ha : tbl[i]? = some a) (ho : o ∈ a.opts)
    (hfirst : ∀ j < i, ∀ b, tbl[j]? = some b → o ∉ b.opts) :
    (optTable tbl).lookup o = some i := by
  apply lookup_flatMap_opts tbl.zipIdx o i a i _ ho
  · intro m hm q hq
    rw [List.getElem?_zipIdx, Option.map_eq_some_iff] at hq
    obtain ⟨b, hb, rfl⟩ := hq
    exact hfirst m hm b hb
  · rw [List.getElem?_zipIdx, ha, Option.map_some, Nat.zero_add]

/-- no action other than (possibly) number `i` is required or has a string default that `type=`
    would rewrite after the parse — true of every table whose fields have non-string defaults -/
def QuietExcept (tbl : List Act) (i : Nat) : Prop :=
  ∀ p ∈ tbl.zipIdx, p.2 = i ∨ (p.1.required = false ∧ ∀ s, p.1.default ≠ some (.sc (.str s)))

/-- the command line of ONE occurrence: `o tok` (`eq = false`) or `o=tok` (`eq = true`) -/
def occ (o tok : Str) (eq : Bool) : List Str := if eq then [o ++ '=' :: tok] else [o, tok]

/-- what the value token must satisfy in each spelling: spaced — argparse lexes it as an argument
    (e.g. it does not start with `-`); `=` form — ANY token, the option string has no `=` and
    `o=tok` is not itself an option string -/
def TokOk (tbl : List Act) (o tok : Str) : Bool → Prop
  | false => ArgTok tbl tok
  | true => '=' ∉ o ∧ (optTable tbl).lookup (o ++ '=' :: tok) = none

/-- one decimal token through an `int` action: the closure counters are untouched -/
theorem getValuesList_int {fenv : FEnv} {a : Act} (ha : a.conv = .base .int) (hc : a.choices = none)
    {i : Nat} {cs' : List Nat} {tok : Str} {v : Int} (hp : parseInt tok = .ok (.int v)) :
    getValuesList fenv a i cs' [tok] = .ok ([.int v], cs') := by
  simp [getValuesList, getValue, ha, hc, Conv.apply, BConv.apply, hp]

theorem tokOk_of_nodash (tbl : List Act) (o tok : Str) (h : NoDash tok) : TokOk tbl o tok false :=
  argTok_of_nodash tbl tok h

/-- **C10 (an accepted spelling sets its field).** Any table, any position `i` of a one-value
    `store` action with a stateless `type=`: the command line `o tok` or `o=tok`, where `o` is ANY
    of the action's option strings (not shadowed by an earlier action — "no name clash" —, and not
    the bare separator `--`) and `tok` converts to `v`, is accepted and the namespace is the
    initial one with exactly `act.dest := v`. -/
theorem c10_spelling_sets_field (fenv : FEnv) (tbl : List Act) (cs : List Nat) (i : Nat) (act : Act)
    (o tok : Str) (v : Scalar) (eq : Bool)
    (hal : C04.Aligned tbl cs)
    (hact : tbl[i]? = some act) (hk : act.kind = .store) (hn : act.nargs = .one)
    (hstateless : ∀ bs, act.conv ≠ .tupleCounter bs)
    (ho : o ∈ act.opts) (hfirst : ∀ j < i, ∀ b, tbl[j]? = some b → o ∉ b.opts)
    (hdash : ∃ r, o = '-' :: r) (hsep : o ≠ ['-', '-'])
    (htok : TokOk tbl o tok eq)
    (hconv : ∀ cs', getValuesList fenv act i cs' [tok] = .ok ([v], cs'))
    (hquiet : QuietExcept tbl i) :
    runStrict fenv tbl cs (occ o tok eq) = .ok (setKey (initNs tbl) act.dest (.sc v)) [] cs := by
  -- the command line is the rendering of the single segment `o [tok]` in the spelling `eq`
  have hsc : ∀ cs', C02.segCounters tbl cs' ⟨i, o, [tok]⟩ = cs' := by
    intro cs'
    -- `simp` discharges the side condition of the `match`'s catch-all alternative with `hstateless`
    simp only [C02.segCounters, hact]
  have hlex : LexOk' tbl ⟨⟨i, o, [tok]⟩, eq⟩ := by
    refine ⟨optTable_lookup_first hact ho hfirst, hdash, hsep, ?_, ?_⟩ <;> cases eq
    · exact fun _ t ht => List.mem_singleton.mp ht ▸ htok
    · exact fun he => nomatch he
    · exact fun t ht => nomatch ht
    · exact fun t ht => Option.some.inj ht ▸ htok
  have key := C02.c02_engine_roundtrip fenv tbl cs [⟨⟨i, o, [tok]⟩, [v], eq⟩] hal
    (List.forall_mem_singleton.mpr hlex)
    (List.forall_mem_singleton.mpr
      ⟨act, hact, .inl hk, hn ▸ rfl, fun cs' _ => (hsc cs').symm ▸ hconv cs'⟩)
    (fun p hp => (hquiet p hp).imp (fun h => ⟨_, List.mem_singleton_self _, h.symm⟩)
      (fun h => ⟨h.1, fun s hs => absurd hs (h.2 s)⟩))
  have hrender : render' ([(⟨⟨i, o, [tok]⟩, [v], eq⟩ : C02.VSeg)].map (·.eseg)) = occ o tok eq := by
    cases eq <;> rfl
  rw [hrender] at key
  rw [key]
  simp [C02.storeAll, hact, C02.storedVal, hk, hn, segVal, C02.countersAll, hsc]

/-- **C10 (every accepted spelling sets the SAME field).** Two spellings `o₁`, `o₂` of one action,
    each in either form (`o tok` / `o=tok`), give the same result, and that result differs from the
    defaults at the action's destination and nowhere else. -/
theorem c10_same_field (fenv : FEnv) (tbl : List Act) (cs : List Nat) (i : Nat) (act : Act)
    (o₁ o₂ tok : Str) (v : Scalar) (eq₁ eq₂ : Bool)
    (hal : C04.Aligned tbl cs)
    (hact : tbl[i]? = some act) (hk : act.kind = .store) (hn : act.nargs = .one)
    (hstateless : ∀ bs, act.conv ≠ .tupleCounter bs)
    (ho₁ : o₁ ∈ act.opts) (hfirst₁ : ∀ j < i, ∀ b, tbl[j]? = some b → o₁ ∉ b.opts)
    (hdash₁ : ∃ r, o₁ = '-' :: r) (hsep₁ : o₁ ≠ ['-', '-'])
    (ho₂ : o₂ ∈ act.opts) (hfirst₂ : ∀ j < i, ∀ b, tbl[j]? = some b → o₂ ∉ b.opts)
    (hdash₂ : ∃ r, o₂ = '-' :: r) (hsep₂ : o₂ ≠ ['-', '-'])
    (htok₁ : TokOk tbl o₁ tok eq₁) (htok₂ : TokOk tbl o₂ tok eq₂)
    (hconv : ∀ cs', getValuesList fenv act i cs' [tok] = .ok ([v], cs'))
    (hquiet : QuietExcept tbl i) :
    runStrict fenv tbl cs (occ o₁ tok eq₁) = runStrict fenv tbl cs (occ o₂ tok eq₂) ∧
    ∃ ns, runStrict fenv tbl cs (occ o₁ tok eq₁) = .ok ns [] cs ∧
      ns.lookup act.dest = some (.sc v) ∧
      ∀ d, d ≠ act.dest → ns.lookup d = (initNs tbl).lookup d := by
  have h₁ := c10_spelling_sets_field fenv tbl cs i act o₁ tok v eq₁ hal hact hk hn hstateless ho₁ hfirst₁
    hdash₁ hsep₁ htok₁ hconv hquiet
  have h₂ := c10_spelling_sets_field fenv tbl cs i act o₂ tok v eq₂ hal hact hk hn hstateless ho₂ hfirst₂
    hdash₂ hsep₂ htok₂ hconv hquiet
  exact ⟨h₁.trans h₂.symm, _, h₁, C02.lookup_setKey_same _ _ _,
    fun d hd => C02.lookup_setKey_other _ _ _ _ hd⟩

theorem tableOf_head {cfg : Cfg} {dest : Str} {fs : List FieldSpec} {tbl : List Act}
    (h : tableOf cfg dest fs = some tbl) : tbl[0]? = some helpAct := by
  obtain ⟨acts, _, rfl⟩ := Option.map_eq_some_iff.mp h
  rfl

/-- **C10 (an accepted spelling sets its field — for the parser of a flat dataclass).**
    `tableOf cfg dest fs` in any of the 18 mode combinations; field `i` a one-value non-boolean
    field with a stateless `type=`.  EVERY spelling `o` the rule `Spec` allows for that field — flat
    name, nested path, alias, dashed variant — that clashes with no earlier field's spellings (nor
    `-h`, `--help`) and is not the bare separator `--`, written `o tok` or `o=tok` with a token
    converting to `v`, is accepted and stores `v` at `dest.name` and nowhere else. -/
theorem c10_flat_spelling_sets_field (fenv : FEnv) (cfg : Cfg) (dest : Str) (fs : List FieldSpec)
    (tbl : List Act) (htbl : tableOf cfg dest fs = some tbl) (cs : List Nat) (hal : C04.Aligned tbl cs)
    (i : Nat) (hi : i < fs.length) (ao : ArgOpts) (hao : argOptions fs[i] = some ao)
    (hbool : ao.isBool = false) (hn : ao.nargs = .one) (hstateless : ∀ bs, ao.conv ≠ .tupleCounter bs)
    (o tok : Str) (v : Scalar) (eq : Bool)
    (hspec : Spec cfg (fwOf dest fs[i]) o)
    (hhelp : o ∉ helpAct.opts)
    (hclash : ∀ j (hj : j < i), ¬ (Spec cfg (fwOf dest fs[j]) o ∨ o ∈ negsOf cfg dest fs[j]))
    (hsep : o ≠ ['-', '-'])
    (htok : TokOk tbl o tok eq)
    (hconv : ∀ a, tbl[i + 1]? = some a → ∀ cs', getValuesList fenv a (i + 1) cs' [tok] = .ok ([v], cs'))
    (hquiet : QuietExcept tbl (i + 1)) :
    runStrict fenv tbl cs (occ o tok eq) =
      .ok (setKey (initNs tbl) (dest ++ '.' :: fs[i].name) (.sc v)) [] cs := by
  obtain ⟨a, hfa, hta⟩ := C02.tableOf_get cfg dest fs tbl htbl i hi
  obtain ⟨a', hfa', hkind, hdest, hnargs, hcv, _⟩ := C02.fieldAct_store cfg dest _ ao hao hbool
  obtain rfl : a = a' := Option.some.inj (hfa.symm.trans hfa')
  have ho : o ∈ a.opts := (fieldAct_opts hfa o).mpr (.inl hspec)
  -- action 0 is help, action `j + 1` belongs to field `j`
  have hfirst : ∀ j < i + 1, ∀ b, tbl[j]? = some b → o ∉ b.opts := by
    intro j hj b hb
    cases j with
    | zero =>
      rw [tableOf_head htbl] at hb
      exact Option.some.inj hb ▸ hhelp
    | succ j =>
      have hj' : j < i := Nat.lt_of_succ_lt_succ hj
      obtain ⟨b', hfb, htb⟩ := C02.tableOf_get cfg dest fs tbl htbl j (Nat.lt_trans hj' hi)
      obtain rfl : b' = b := Option.some.inj (htb.symm.trans hb)
      exact fun hob => hclash j hj' ((fieldAct_opts hfb o).mp hob)
  rw [← hdest]
  exact c10_spelling_sets_field fenv tbl cs (i + 1) a o tok v eq hal hta hkind (hnargs.trans hn)
    (hcv ▸ hstateless) ho hfirst (spec_dash hspec) hsep htok (hconv a hta) hquiet

/-! ### Open finding `C10-short-alias-variant`: the dashed variant of a one-dash alias gets two dashes -/

/-- the documented expectation ("the same number of dashes will be used", option_strings docstring;
    "UNDERSCORE_AND_DASH accepts both spellings for names and aliases"): the dashed variant of a
    one-dash alias keeps its single dash -/
def AliasVariantKeepsDashes : Prop :=
  ∀ (gen : Gen) (nest : Nest) (fw : FW) (n : Str), fw.positional = false → fw.pref = [] →
    n.head? ≠ some '-' → ('-' :: n) ∈ fw.aliases → hasUnderscore n = true →
    ('-' :: dashify n) ∈ optionList ⟨.both, gen, nest⟩ fw

/-- the code does not satisfy it: alias `-v_w` yields `-v_w` and `--v-w`, never `-v-w` -/
theorem c10_alias_variant_witness : ¬ AliasVariantKeepsDashes := by
  intro h
  have := h .flat .default
    { name := "alpha".toList, pref := [], dest := "c.alpha".toList, aliases := ["-v_w".toList] }
    "v_w".toList rfl rfl (by decide_lit) (by decide_lit) (by decide_lit)
  revert this
  decide_lit

/-- `_partial`: for aliases that are NOT one-dash (named exclusion: two leading dashes, or none and
    more than one letter) the variant keeps the dashes of the declared spelling: both the declared
    spelling `decl` (`c10_alias_kept`) and its dashed twin `dashify decl`
    (`alias_variant_mem_optionList`) are accepted -/
theorem c10_alias_variant_partial (gen : Gen) (nest : Nest) (fw : FW) (hpos : fw.positional = false)
    (hp : fw.pref = []) (a : Str) (ha : a ∈ fw.aliases) (hu : hasUnderscore a = true)
    (hnot1 : (∃ n, a = '-' :: '-' :: n ∧ n.length ≠ 1) ∨ (a.head? ≠ some '-' ∧ a.length ≠ 1)) :
    ∃ decl, decl ∈ optionList ⟨.both, gen, nest⟩ fw ∧ dashify decl ∈ optionList ⟨.both, gen, nest⟩ fw ∧
      (decl = a ∨ decl = '-' :: '-' :: a) := by
  have hk := c10_alias_kept ⟨.both, gen, nest⟩ fw hpos hp a ha
  have hv := alias_variant_mem_optionList gen nest fw hpos a ha
  -- in both cases the pair is (`--`, name), and `dashify` leaves the two dashes in front alone
  rcases hnot1 with ⟨n, rfl, hl⟩ | ⟨hn, hl⟩
  · simp only [hp, aliasPair_2dash, List.nil_append, dashFor_long hl] at hv
    exact ⟨_, hk, hv hu, .inl rfl⟩
  · simp only [hp, aliasPair_0dash _ _ hn, List.nil_append, dashFor_long hl] at hv
    rw [if_neg hn, dashFor_long hl] at hk
    exact ⟨_, hk, hv hu, .inr rfl⟩

/-! ### Open finding `C10-separator-option`: a field (or alias) spelled `_` registers the bare `--` -/

/-- what one expects: a field with a non-empty name that does not start with a dash never registers
    argparse's separator `--` as one of its option strings -/
def SeparatorFree : Prop :=
  ∀ (cfg : Cfg) (fw : FW), fw.positional = false → fw.pref = [] → fw.aliases = [] → cfg.gen = .flat →
    fw.name ≠ [] → fw.name.head? ≠ some '-' → ['-', '-'] ∉ optionList cfg fw

/-- the code does not satisfy it: the field `_` under UNDERSCORE_AND_DASH gets `-_`, `--_` and `--` -/
theorem c10_separator_witness : ¬ SeparatorFree := by
  intro h
  have := h ⟨.both, .flat, .default⟩
    { name := "_".toList, pref := [], dest := "c._".toList, aliases := [] } rfl rfl rfl rfl
    (by decide_lit) (by decide_lit)
  revert this
  decide_lit

/-- `_partial`, named exclusion `fw.name ≠ "_"`: every other name is separator-free, in all modes -/
theorem c10_separator_partial (cfg : Cfg) (fw : FW) (hpos : fw.positional = false) (hp : fw.pref = [])
    (hal : fw.aliases = []) (hg : cfg.gen = .flat) (hne : fw.name ≠ [])
    (hhead : fw.name.head? ≠ some '-') (hexcl : fw.name ≠ ['_']) :
    ['-', '-'] ∉ optionList cfg fw := by
  intro hmem
  obtain ⟨src, hsrc, d, b, heq, hd, hb⟩ := spec_shape ((c10_exact cfg fw hpos _).mp hmem)
  -- the only source is the flat name; its body is the name or the dashed name
  obtain rfl : src = .flatName := by
    rcases (mem_sources ..).mp hsrc with ⟨_, h⟩ | ⟨h, _⟩ | ⟨a, ha, _⟩
    · exact h
    · exact absurd hg h
    · rw [hal] at ha; cases ha
  have hbody : dashify b = dashify fw.name := by
    have : body cfg fw .flatName = fw.name ∨ body cfg fw .flatName = dashify fw.name := by
      simp only [body, genSpell, hp, List.nil_append]
      split
      · exact .inr rfl
      · exact .inl rfl
    rcases hb with rfl | rfl <;> rcases this with h | h <;> simp only [h, dashify_idem]
  -- `--` = d ++ b leaves `b` empty or a lone dash, and so is the dashed name: the name is `_` or `-`
  have hb' : b = [] ∨ b = ['-'] := by
    rcases hd with rfl | rfl
    · exact .inr (List.cons.inj heq).2.symm
    · exact .inl (List.cons.inj (List.cons.inj heq).2).2.symm
  rcases hb' with rfl | rfl
  · exact hne (dashify_eq_nil _ hbody.symm)
  · rcases dashify_eq_dash _ hbody.symm with h | h
    · exact hexcl h
    · exact hhead (h ▸ rfl)

/-- …and `--` is a DEAD spelling: the table of the one-field dataclass `_: int = 1` under
    UNDERSCORE_AND_DASH carries `--` among the field's option strings, yet `-- 7` does not set the
    field (argparse reads `--` as the separator; `7` is left over).  So the exclusion `o ≠ "--"` of
    `c10_spelling_sets_field` / `c10_flat_spelling_sets_field` cannot be dropped. -/
theorem c10_same_field_separator_witness :
    ∃ tbl, tableOf ⟨.both, .flat, .default⟩ "c".toList
        [{ name := "_".toList, ty := { inner := .sc (.base .int), optional := false },
           default := .value (.sc (.int 1)) }] = some tbl ∧
      (∃ a, tbl[1]? = some a ∧ ['-', '-'] ∈ a.opts) ∧
      runStrict [] tbl [0, 0] ["--".toList, "7".toList] = .exit 2 .unrecognized := by
  refine ⟨_, rfl, ⟨_, rfl, by decide +kernel⟩, by decide +kernel⟩

/-! ### non-vacuity: a concrete dataclass `a_b: int = 0 (alias -q); k: int = 5`
    registered at `c`, under UNDERSCORE_AND_DASH / FLAT -/

def demoCfg : Cfg := ⟨.both, .flat, .default⟩

def demoFs : List FieldSpec :=
  [ { name := "a_b".toList, ty := { inner := .sc (.base .int), optional := false },
      default := .value (.sc (.int 0)), aliases := ["-q".toList] },
    { name := "k".toList, ty := { inner := .sc (.base .int), optional := false },
      default := .value (.sc (.int 5)) } ]

def demoTbl : List Act :=
  [ helpAct,
    { opts := ["-q".toList, "--a_b".toList, "--a-b".toList], dest := "c.a_b".toList, kind := .store,
      nargs := .one, conv := .base .int, choices := none, required := false, default := some (.sc (.int 0)) },
    { opts := ["-k".toList, "--k".toList], dest := "c.k".toList, kind := .store,
      nargs := .one, conv := .base .int, choices := none, required := false, default := some (.sc (.int 5)) } ]
attribute [lit] demoFs demoTbl

theorem demo_table : tableOf demoCfg "c".toList demoFs = some demoTbl := by decide_lit

theorem demo_quiet (i : Nat) : QuietExcept demoTbl i := by
  intro p hp
  right
  simp only [demoTbl, List.zipIdx_cons, List.zipIdx_nil, List.mem_cons, List.not_mem_nil, or_false] at hp
  rcases hp with rfl | rfl | rfl <;> exact ⟨rfl, fun s h => by cases h⟩

theorem demo_spec (o : Str) :
    (Spec demoCfg (fwOf "c".toList demoFs[0]) o ∨ o ∈ negsOf demoCfg "c".toList demoFs[0]) ↔
      o ∈ ["--a_b".toList, "-q".toList, "--a-b".toList] :=
  spec_or_negs_iff (by decide_lit) (by decide_lit) o

theorem demo_spec1 (o : Str) :
    (Spec demoCfg (fwOf "c".toList demoFs[1]) o ∨ o ∈ negsOf demoCfg "c".toList demoFs[1]) ↔
      o ∈ ["-k".toList, "--k".toList] :=
  spec_or_negs_iff (by decide_lit) (by decide_lit) o

/-- the spellings of the demo dataclass are the five strings of `demo_spec` and `demo_spec1` -/
theorem demo_no_prefix (x : Str)
    (h : ∀ o ∈ ["--a_b".toList, "-q".toList, "--a-b".toList, "-k".toList, "--k".toList],
      startsWith o x = false) :
    ∀ f ∈ demoFs, ∀ o, (Spec demoCfg (fwOf "c".toList f) o ∨ o ∈ negsOf demoCfg "c".toList f) →
      startsWith o x = false := by
  intro f hf o ho
  simp only [demoFs, List.mem_cons, List.not_mem_nil, or_false] at hf
  rcases hf with rfl | rfl
  · exact h o (List.mem_append_left ["-k".toList, "--k".toList] ((demo_spec o).mp ho))
  · exact h o (List.mem_append_right ["--a_b".toList, "-q".toList, "--a-b".toList] ((demo_spec1 o).mp ho))

/-- `c10_flat_no_other_spelling`: `--a.b 3 …` is rejected by that parser -/
example : ∀ ns ex cs', runStrict [] demoTbl [0, 0, 0] ["--k".toList, "1".toList, "--a.b".toList, "3".toList]
    ≠ .ok ns ex cs' := by
  simp only [String.toList_lit rfl]
  exact c10_flat_no_other_spelling [] demoCfg _ demoFs demoTbl demo_table [0, 0, 0]
    [['-', '-', 'k'], ['1']] [['3']] ['a', '.', 'b'] (List.cons_ne_nil _ _) (by decide) (by decide) (by decide)
    (by decide_lit) (demo_no_prefix _ (by decide_lit))

/-- `c10_flat_no_other_spelling_eq`: so is `--A_B=3` -/
example : ∀ ns ex cs', runStrict [] demoTbl [0, 0, 0] ["--A_B=3".toList] ≠ .ok ns ex cs' := by
  simp only [String.toList_lit rfl]
  exact c10_flat_no_other_spelling_eq [] demoCfg _ demoFs demoTbl demo_table [0, 0, 0]
    [] [] ['A', '_', 'B'] ['3'] (by decide) (List.forall_mem_nil _) (by decide) (by decide_lit)
    (demo_no_prefix _ (by decide_lit))

theorem demo_aligned : C04.Aligned demoTbl [0, 0, 0] := C04.aligned_zeros demoTbl

/-- `c10_same_field`: `--a_b 3` and `--a-b=3` set `c.a_b`, and only it -/
example : runStrict [] demoTbl [0, 0, 0] ["--a_b".toList, "3".toList] =
      runStrict [] demoTbl [0, 0, 0] ["--a-b=3".toList] ∧
    ∃ ns, runStrict [] demoTbl [0, 0, 0] ["--a_b".toList, "3".toList] = .ok ns [] [0, 0, 0] ∧
      ns.lookup "c.a_b".toList = some (.sc (.int 3)) ∧
      ∀ d, d ≠ "c.a_b".toList → ns.lookup d = (initNs demoTbl).lookup d := by
  have h := c10_same_field [] demoTbl [0, 0, 0] 1 _ "--a_b".toList "--a-b".toList "3".toList (.int 3)
    false true demo_aligned rfl rfl rfl (fun _ h => nomatch h)
    (by decide_lit) (by decide_lit) ⟨_, String.toList_lit rfl⟩ (by decide_lit)
    (by decide_lit) (by decide_lit) ⟨_, String.toList_lit rfl⟩ (by decide_lit)
    (tokOk_of_nodash _ _ _ (by simp [NoDash])) ⟨by decide_lit, by decide_lit⟩
    (fun _ => getValuesList_int rfl rfl (by decide_lit)) (demo_quiet 1)
  simp only [String.toList_lit rfl] at h ⊢
  exact h

/-- `c10_flat_spelling_sets_field`: every spelling of field 0 allowed by `Spec` — here the dashed
    variant `--a-b`, in the `=` form with a NEGATIVE value — stores at `c.a_b` -/
example : runStrict [] demoTbl [0, 0, 0] ["--a-b=-3".toList] =
    .ok (setKey (initNs demoTbl) "c.a_b".toList (.sc (.int (-3)))) [] [0, 0, 0] := by
  have h := c10_flat_spelling_sets_field [] demoCfg "c".toList demoFs demoTbl demo_table [0, 0, 0] demo_aligned
    0 (Nat.zero_lt_succ _) _ rfl rfl rfl (fun _ h => nomatch h) "--a-b".toList "-3".toList (.int (-3)) true
    ((c10_exact _ _ rfl _).mp (by decide_lit))
    (by decide_lit) (fun j hj => absurd hj (Nat.not_lt_zero j)) (by decide_lit) ⟨by decide_lit, by decide_lit⟩
    (fun a ha cs' => by cases ha; exact getValuesList_int rfl rfl (by decide_lit))
    (demo_quiet 1)
  -- `demoFs` is unfolded so that `demoFs[0].name` is a character list before `exact` compares
  simp only [String.toList_lit rfl, demoFs, List.getElem_cons_zero] at h ⊢
  exact h

/-- `c10_optionStrings_iff` at work: the sorted, de-duplicated list of field 0 -/
example : optionStrings demoCfg (fwOf "c".toList demoFs[0]) =
    ["-q".toList, "--a_b".toList, "--a-b".toList] := by decide_lit

/-! ### …discharged for the universe the check enumerates: dataclasses of `int` fields with defaults -/

/-- `name: int = d` -/
def IntField (f : FieldSpec) : Prop :=
  f.ty = { inner := .sc (.base .int), optional := false } ∧ ∃ d, f.default = .value (.sc (.int d))

theorem argOptions_int {f : FieldSpec} (h : IntField f) :
    ∃ d, argOptions f = some { nargs := .one, conv := .base .int, choices := none, required := false,
                               default := .sc (.int d), isBool := false } := by
  obtain ⟨hty, d, hd⟩ := h
  obtain ⟨name, ty, dflt, al⟩ := f
  cases hty
  cases hd
  exact ⟨d, argOptions_of_shape rfl⟩

theorem negsOf_int (cfg : Cfg) (dest : Str) {f : FieldSpec} (h : IntField f) : negsOf cfg dest f = [] := by
  obtain ⟨d, hao⟩ := argOptions_int h
  simp [negsOf, hao]

theorem int_spec_or_negs (cfg : Cfg) (dest : Str) {f : FieldSpec} (h : IntField f) (o : Str) :
    (Spec cfg (fwOf dest f) o ∨ o ∈ negsOf cfg dest f) ↔ Spec cfg (fwOf dest f) o := by
  rw [negsOf_int cfg dest h]
  exact or_iff_left List.not_mem_nil

theorem tableOf_int_quiet {cfg : Cfg} {dest : Str} {fs : List FieldSpec} {tbl : List Act}
    (htbl : tableOf cfg dest fs = some tbl) (hint : ∀ f ∈ fs, IntField f) (i : Nat) :
    QuietExcept tbl i := by
  rintro ⟨a, j⟩ hp
  right
  have ha : a ∈ tbl := (List.mem_zipIdx hp).2.2 ▸ List.getElem_mem _
  rcases C04.tableOf_mem cfg dest fs tbl htbl a ha with rfl | ⟨f, hf, hfa⟩
  · exact ⟨rfl, fun s h => nomatch h⟩
  · -- the action copies `required` and `default` from the answer of `argOptions`
    obtain ⟨d, hao⟩ := argOptions_int (hint f hf)
    obtain ⟨ao, hao', rfl⟩ := Option.map_eq_some_iff.mp hfa
    cases hao.symm.trans hao'
    exact ⟨rfl, fun s h => nomatch h⟩

/-- **C10 (every accepted spelling sets the same field — dataclasses of int fields).** For ANY flat
    dataclass whose fields are `int`s with defaults (any number of fields, names, aliases), in any
    of the 18 mode combinations: every spelling `o` the rule allows for field `i` that the rule
    allows for no earlier field, is not `-h` / `--help` and is not the bare `--`, written `o tok`
    or `o=tok` with a decimal token, is accepted; the result is the default namespace with
    `dest.name := v` and nothing else changed.  (No hypothesis about the engine is left.) -/
theorem c10_int_dataclass_same_field (fenv : FEnv) (cfg : Cfg) (dest : Str) (fs : List FieldSpec)
    (tbl : List Act) (htbl : tableOf cfg dest fs = some tbl) (hint : ∀ f ∈ fs, IntField f)
    (cs : List Nat) (hal : C04.Aligned tbl cs) (i : Nat) (hi : i < fs.length) (o tok : Str) (v : Int)
    (eq : Bool)
    (hspec : Spec cfg (fwOf dest fs[i]) o)
    (hhelp : o ∉ helpAct.opts)
    (hclash : ∀ j (hj : j < i), ¬ Spec cfg (fwOf dest fs[j]) o)
    (hsep : o ≠ ['-', '-'])
    (htok : TokOk tbl o tok eq) (hparse : parseInt tok = .ok (.int v)) :
    runStrict fenv tbl cs (occ o tok eq) =
      .ok (setKey (initNs tbl) (dest ++ '.' :: fs[i].name) (.sc (.int v))) [] cs := by
  obtain ⟨d, hao⟩ := argOptions_int (hint _ (List.getElem_mem hi))
  obtain ⟨a, hfa, hta⟩ := C02.tableOf_get cfg dest fs tbl htbl i hi
  obtain ⟨a', hfa', _, _, _, hconv, hch, _⟩ := C02.fieldAct_store cfg dest _ _ hao rfl
  obtain rfl : a = a' := Option.some.inj (hfa.symm.trans hfa')
  refine c10_flat_spelling_sets_field fenv cfg dest fs tbl htbl cs hal i hi _ hao rfl rfl
    (fun _ h => nomatch h) o tok (.int v) eq hspec hhelp ?_ hsep htok ?_
    (tableOf_int_quiet htbl hint (i + 1))
  · exact fun j hj hor =>
      hclash j hj ((int_spec_or_negs cfg dest (hint _ (List.getElem_mem _)) o).mp hor)
  · intro b hb cs'
    obtain rfl : a = b := Option.some.inj (hta.symm.trans hb)
    exact getValuesList_int hconv hch hparse

/-- **C10 (no other spelling — dataclasses of int fields)**: a long spelling that is a prefix
    neither of `--help` nor of a spelling the rule allows for some field is never accepted (both forms) -/
theorem c10_int_dataclass_no_other_spelling (fenv : FEnv) (cfg : Cfg) (dest : Str) (fs : List FieldSpec)
    (tbl : List Act) (htbl : tableOf cfg dest fs = some tbl) (hint : ∀ f ∈ fs, IntField f) (cs : List Nat)
    (pre post : List Str) (r : Str) (hr : r ≠ [])
    (hdd : ∀ x ∈ pre, x ≠ ['-', '-'])
    (heq : splitEq ('-' :: '-' :: r) = none)
    (hsp : (('-' :: '-' :: r).contains ' ') = false)
    (hhelp : startsWith "--help".toList ('-' :: '-' :: r) = false)
    (hspec : ∀ f ∈ fs, ∀ o, Spec cfg (fwOf dest f) o → startsWith o ('-' :: '-' :: r) = false)
    (ns : List (Str × Val)) (ex : List Str) (cs' : List Nat) :
    runStrict fenv tbl cs (pre ++ ('-' :: '-' :: r) :: post) ≠ .ok ns ex cs' ∧
    ∀ v, (('-' :: '-' :: (r ++ '=' :: v)).contains ' ') = false →
      runStrict fenv tbl cs (pre ++ ('-' :: '-' :: (r ++ '=' :: v)) :: post) ≠ .ok ns ex cs' := by
  have hspec' : ∀ f ∈ fs, ∀ o, (Spec cfg (fwOf dest f) o ∨ o ∈ negsOf cfg dest f) →
      startsWith o ('-' :: '-' :: r) = false :=
    fun f hf o ho => hspec f hf o ((int_spec_or_negs cfg dest (hint f hf) o).mp ho)
  have hr' : '=' ∉ r := fun hmem => splitEq_ne_none _ (by simp [hmem]) heq
  exact ⟨c10_flat_no_other_spelling fenv cfg dest fs tbl htbl cs pre post r hr hdd heq hsp hhelp hspec' ns ex cs',
    fun v hv => c10_flat_no_other_spelling_eq fenv cfg dest fs tbl htbl cs pre post r v hr' hdd hv hhelp hspec'
      ns ex cs'⟩

theorem demo_int : ∀ f ∈ demoFs, IntField f := by
  intro f hf
  simp only [demoFs, List.mem_cons, List.not_mem_nil, or_false] at hf
  rcases hf with rfl | rfl <;> exact ⟨rfl, _, rfl⟩

/-- `c10_int_dataclass_no_other_spelling`: `--a.b 3` and `--a.b=3` are rejected by the demo parser -/
example : ∀ ns ex cs', runStrict [] demoTbl [0, 0, 0] ["--a.b".toList, "3".toList] ≠ .ok ns ex cs' ∧
    runStrict [] demoTbl [0, 0, 0] ["--a.b=3".toList, "3".toList] ≠ .ok ns ex cs' := by
  simp only [String.toList_lit rfl]
  intro ns ex cs'
  have h := c10_int_dataclass_no_other_spelling [] demoCfg _ demoFs demoTbl demo_table demo_int
    [0, 0, 0] [] [['3']] ['a', '.', 'b'] (List.cons_ne_nil _ _) (List.forall_mem_nil _) (by decide) (by decide)
    (by decide_lit) (fun f hf o ho => demo_no_prefix _ (by decide_lit) f hf o (.inl ho)) ns ex cs'
  exact ⟨h.1, h.2 ['3'] (by decide)⟩

/-- both spellings of `a_b` in the demo dataclass, via the discharged theorem, spaced and `=` form -/
example : runStrict [] demoTbl [0, 0, 0] ["--a-b".toList, "12".toList] =
      .ok (setKey (initNs demoTbl) "c.a_b".toList (.sc (.int 12))) [] [0, 0, 0] ∧
    runStrict [] demoTbl [0, 0, 0] ["--a_b=-12".toList] =
      .ok (setKey (initNs demoTbl) "c.a_b".toList (.sc (.int (-12)))) [] [0, 0, 0] := by
  have key := c10_int_dataclass_same_field [] demoCfg "c".toList demoFs demoTbl demo_table demo_int
    [0, 0, 0] demo_aligned 0 (Nat.zero_lt_succ _)
  have h₁ := key "--a-b".toList "12".toList 12 false ((c10_exact _ _ rfl _).mp (by decide_lit))
    (by decide_lit) (fun j hj => absurd hj (Nat.not_lt_zero j)) (by decide_lit)
    (tokOk_of_nodash _ _ _ (by simp [NoDash])) (by decide_lit)
  have h₂ := key "--a_b".toList "-12".toList (-12) true ((c10_exact _ _ rfl _).mp (by decide_lit))
    (by decide_lit) (fun j hj => absurd hj (Nat.not_lt_zero j)) (by decide_lit)
    ⟨by decide_lit, by decide_lit⟩ (by decide_lit)
  simp only [String.toList_lit rfl, demoFs, List.getElem_cons_zero] at h₁ h₂ ⊢
  exact ⟨h₁, h₂⟩

/-- for the test vectors below: a theorem gives `b ∈ l` for an expression `b`, and the kernel
    evaluates `b` to the literal `a` of the test -/
theorem mem_of_eq {α : Type} {l : List α} {a b : α} (hb : b ∈ l) (h : a = b) : a ∈ l := h ▸ hb

-- aliases, in every mode
example : "--al_pha".toList ∈ optionList ⟨.dashOnly, .nested, .withoutRoot⟩
    { name := "x".toList, pref := [], dest := "c.m.x".toList, aliases := ["--al_pha".toList, "-z".toList, "zz".toList] } := by
  simp only [String.toList_lit rfl, lit]
  exact c10_alias_2dash_kept _ _ rfl rfl _ (by decide)
example : "-z".toList ∈ optionList ⟨.dashOnly, .nested, .withoutRoot⟩
    { name := "x".toList, pref := [], dest := "c.m.x".toList, aliases := ["--al_pha".toList, "-z".toList, "zz".toList] } := by
  simp only [String.toList_lit rfl, lit]
  exact c10_alias_1dash_kept _ _ rfl rfl _ (by decide) (by decide)
example : "--zz".toList ∈ optionList ⟨.dashOnly, .nested, .withoutRoot⟩
    { name := "x".toList, pref := [], dest := "c.m.x".toList, aliases := ["--al_pha".toList, "-z".toList, "zz".toList] } := by
  simp only [String.toList_lit rfl, lit]
  exact c10_alias_kept _ _ rfl rfl ['z', 'z'] (by decide)
example : "--al-pha".toList ∈ optionList ⟨.both, .flat, .default⟩
    { name := "x".toList, pref := [], dest := "c.x".toList, aliases := ["--al_pha".toList] } :=
  mem_of_eq (alias_variant_mem_optionList _ _ _ rfl "--al_pha".toList (.head _) (by decide_lit)) (by decide_lit)
example : "--y-y".toList ∈ optionList ⟨.both, .flat, .default⟩
    { name := "x".toList, pref := [], dest := "c.x".toList, aliases := ["y_y".toList] } :=
  mem_of_eq (alias_variant_mem_optionList _ _ _ rfl "y_y".toList (.head _) (by decide_lit)) (by decide_lit)
example : "--v-w".toList ∈ optionList ⟨.both, .flat, .default⟩
    { name := "x".toList, pref := [], dest := "c.x".toList, aliases := ["-v_w".toList] } := by
  simp only [String.toList_lit rfl, lit]
  exact c10_alias_1dash_variant_actual _ _ _ rfl rfl ['v', '_', 'w'] (by decide) (.head _) (by decide) (by decide)
example : ∃ decl, decl ∈ optionList ⟨.both, .flat, .default⟩
      { name := "x".toList, pref := [], dest := "c.x".toList, aliases := ["y_y".toList] } ∧
    dashify decl ∈ optionList ⟨.both, .flat, .default⟩
      { name := "x".toList, pref := [], dest := "c.x".toList, aliases := ["y_y".toList] } ∧
    (decl = "y_y".toList ∨ decl = '-' :: '-' :: "y_y".toList) :=
  c10_alias_variant_partial _ _ _ rfl rfl "y_y".toList (by decide_lit) (by decide_lit) (Or.inr ⟨by decide_lit, by decide_lit⟩)
example : ∃ a ∈ ["--al_pha".toList], "--al_pha".toList = (aliasPair [] a).1 ++ (aliasPair [] a).2 :=
  c10_dash_alias_kept .flat .default
    { name := "x_y".toList, pref := [], dest := "c.x_y".toList, aliases := ["--al_pha".toList] } rfl _
    (by decide_lit) (by decide_lit)

-- explicit lists
example : optionList ⟨.dashOnly, .flat, .default⟩
    { name := "a_b".toList, pref := [], dest := "c.a_b".toList, aliases := [] } = ["--a-b".toList] := by
  rw [c10_dash_flat _ _ rfl (by decide_lit) rfl]
  decide_lit
example : optionList ⟨.dashOnly, .nested, .withoutRoot⟩
    { name := "a_b".toList, pref := [], dest := "c.sub_cfg.a_b".toList, aliases := [] } = ["--sub-cfg.a-b".toList] := by
  rw [c10_dash_nested _ _ rfl (by decide_lit) rfl]
  decide_lit
example : optionList ⟨.both, .flat, .default⟩
    { name := "a_b".toList, pref := [], dest := "c.a_b".toList, aliases := [] } = ["--a_b".toList, "--a-b".toList] := by
  rw [c10_both_flat _ _ rfl rfl (by decide_lit) rfl (by decide_lit)]
  decide_lit
example : optionList ⟨.both, .flat, .default⟩
    { name := "alpha".toList, pref := [], dest := "c.alpha".toList, aliases := [] } = ["--alpha".toList] := by
  simp only [String.toList_lit rfl]
  exact c10_both_flat_plain _ _ rfl rfl (by decide) rfl (by decide)
example : optionList ⟨.dashOnly, .flat, .default⟩
    { name := "n".toList, pref := [], dest := "c.n".toList, aliases := [] } = ["-n".toList, "--n".toList] := by
  simp only [String.toList_lit rfl]
  exact c10_one_letter_flat _ _ _ 'n' rfl rfl rfl (by decide) rfl
example : "--sub_cfg.a_b".toList ∈ optionList ⟨.both, .both, .withoutRoot⟩
      { name := "a_b".toList, pref := [], dest := "c.sub_cfg.a_b".toList, aliases := [] } ∧
    "--sub-cfg.a-b".toList ∈ optionList ⟨.both, .both, .withoutRoot⟩
      { name := "a_b".toList, pref := [], dest := "c.sub_cfg.a_b".toList, aliases := [] } := by
  have h := c10_both_path_spellings .both .withoutRoot
    { name := "a_b".toList, pref := [], dest := "c.sub_cfg.a_b".toList, aliases := [] } rfl (by decide)
    (by decide_lit) (by decide_lit)
  exact ⟨mem_of_eq h.1 (by decide_lit), mem_of_eq h.2 (by decide_lit)⟩
example : "--a_b".toList ∈ optionList ⟨.both, .both, .default⟩
      { name := "a_b".toList, pref := [], dest := "c.a_b".toList, aliases := [] } ∧
    "--a-b".toList ∈ optionList ⟨.both, .both, .default⟩
      { name := "a_b".toList, pref := [], dest := "c.a_b".toList, aliases := [] } := by
  have h := c10_both_name_spellings .both .default
    { name := "a_b".toList, pref := [], dest := "c.a_b".toList, aliases := [] } rfl rfl (by decide) (by decide_lit)
  exact ⟨mem_of_eq h.1 (by decide_lit), mem_of_eq h.2 (by decide_lit)⟩
example : ['-', '-'] ∉ optionList ⟨.both, .flat, .default⟩
    { name := "a_".toList, pref := [], dest := "c.a_".toList, aliases := [] } :=
  c10_separator_partial _ _ rfl rfl rfl rfl (by decide_lit) (by decide_lit) (by decide_lit)
example : hasUnderscore "--a-b".toList = false :=
  c10_dash_option_no_underscore .flat .default
    { name := "a_b".toList, pref := [], dest := "c.a_b".toList, aliases := [] } rfl rfl _ (by decide_lit)

/-! ### non-vacuity / concrete instances -/

example : optionList ⟨.both, .both, .withoutRoot⟩
    { name := "a_b".toList, pref := [], dest := "config.x.a_b".toList, aliases := ["-q".toList] } =
    ["--a_b".toList, "--x.a_b".toList, "-q".toList, "--a-b".toList, "--x.a-b".toList] := by decide_lit

example : Spec ⟨.both, .flat, .default⟩
    { name := "a_b".toList, pref := [], dest := "c.a_b".toList, aliases := [] } "--a-b".toList :=
  ⟨.flatName, by decide_lit, Or.inr ⟨rfl, by decide_lit, by decide_lit⟩⟩

end SpVerif.C10

