/-
  C08 — a parser's result depends only on its own definition and the argv of that call.

  Model: `SpVerif.Model.History` (a pool of parsers + the FieldWrapper class attributes `G` as a state machine; /repo
  at c681aea).  `fresh env spec known argv` is the answer of a freshly built, identically configured parser.

  * `FullStatement` — every parse call of every history returns the fresh answer — is kept visible and is REFUTED on
    the current code in three independent ways, each by concrete witness histories: D9 (`d9_witness`,
    `d9_help_witness`, `d9_errkind_witness`), D10 (`d10_witness`, `d10_later_witness`, `d10_help_witness`), late
    `add_arguments` (`lateAdd_witness`)  ⇒ `c08_full_false`.  Repaired defects are regression examples
    (`d5_regression`, `d6_regression`, `d8_regression`, `helpCtor_regression`, and — found in round 2 of this check,
    repaired by 2abd945 — `rootless_regression`, `rootless_argv_regression`).
  * `c08_partial` (hypothesis `env.reassert = true`, i.e. the tree WITH the D5 repair) — for EVERY history, no bound
    on its length, no hypothesis on it: every parse call that is `safe` in the state it is made in, on a parser all of
    whose earlier calls since its construction kept its state (`keeps`), returns exactly the fresh answer — whatever
    the class attributes are at that moment.  a parse is `safe` when `safeState ∧ safeAnswer` (`safeParse`): `safeState` (`d10Safe`, and two PROOF
    GAPS that are not defects: `cfgSetupSafe` — a `--config_path` parser whose set-up was not made by a completed parse
    call has its actions in another order than a fresh parser, no permutation lemma is proved; `ctorReloadSafe` —
    for a set-up parser with constructor `config_path=` files the theorem CHECKS on the state that re-applying the
    files changes nothing and that a fresh parser reads the same defaults, instead of proving `loadFiles` idempotent;
    the implied `add_config_path_arg` form is outside the model) protects the invariant; `safeAnswer` (`d9Safe`,
    `lateSafe`) only concerns the answer of that call: a call violating it is excluded but does NOT taint the parser.
  * The clauses "construction or use of other parsers with different settings" / "keeps generating the option spelling
    it was configured with" are NOT true by construction of the model: `Model/History.preprocess` receives the class
    attributes, WRITES the parser's own settings (only if `env.reassert`) and generates the option strings from what
    it then READS.  `preprocess_fst` is the one lemma that uses the repair; `parse_out_indep_of_globals` states the
    clause; `d5_old_witness` shows the same safe history violating the statement on the tree before 7b430cf.  The
    trajectory of the class attributes themselves is tied to the code by the `g` observable of the plug-in.
  * The `parse_tuple` closure counters are not part of the state (see the header of `Model/History`): alignment after
    an accepted command line is `C04.c04_counters_aligned`, conversion from an aligned counter is
    `C02.c02_tuple_occurrence`; the reset after a rejected value is observed on the real closures after every call.
  * `c08_partial_safeHist` — the plain form: if every call of a history is `safe`, every parse agrees.
-/
import SpVerif.Model.History
import SpVerif.Lemmas.Lit
namespace SpVerif.C08
open SpVerif SpVerif.History

/-! ### the full statement -/

/-- what the property demands of one call made in state `s` that returned `out` -/
def agrees (env : Env) (s : State) (op : Op) (out : Out) : Bool :=
  match op with
  | .parse i known argv =>
    (match s.pool i with
     | some p => decide (out = fresh env p.spec known argv)
     | none => true)
  | _ => true

def allAgree (env : Env) : State → List Op → Bool
  | _, [] => true
  | s, op :: ops => agrees env s op (step env s op).2 && allAgree env (step env s op).1 ops

/-- the property at full strength: EVERY parse of EVERY history returns what a fresh parser returns -/
def FullStatement : Prop := ∀ (env : Env) (ops : List Op), allAgree env init ops = true

/-! ### the named exclusions -/

/-- D9: on an already set-up parser, this argv selects the subgroup alternatives that were frozen.  An argv the
    subgroup-choice parser would REJECT is excluded as well: the frozen parser may then fail for another reason than a
    fresh one (`d9_errkind_witness`) -/
def d9Safe (env : Env) (p : PState) (argv : List Str) : Bool :=
  !p.preDone ||
  (match cfgScan env p.spec.cfgPath argv with
   | .error _ => true
   | .ok sc =>
     (match chooseAll env p.spec.cfg p.spec.regs sc.rest with
      | .ok fregs => decide (fregs = p.frozen)
      | .error _ => false))

/-- D10 / root-less-after-set-up: no default pushed by an earlier call is still in the wrappers or in argparse's
    parser-level defaults, and a parser that is already set up is not given config files (they would be read but
    ignored by the frozen actions, or mis-read) -/
def d10Safe (env : Env) (p : PState) (argv : List Str) : Bool :=
  decide (p.fileDefs = []) && decide (p.stray = []) &&
  (!p.preDone ||
   (match cfgScan env p.spec.cfgPath argv with
    | .error _ => true
    | .ok sc => sc.names.isEmpty))

/-- late `add_arguments`: nothing was registered after the set-up -/
def lateSafe (p : PState) : Bool := p.late.isEmpty

/-- PROOF GAP (not a known defect): a `--config_path` parser is set up exactly when the option is registered,
    i.e. its set-up was made by a parse call that got through `_preprocessing` (not by `print_help`, and no
    parse stopped between registration and set-up) -/
def cfgSetupSafe (p : PState) : Bool := !p.spec.cfgPath || (p.preDone == p.cfgDefault.isSome)

/-- constructor `config_path=` files are re-applied by every call (parsing.py:306-312): reading them again changes
    nothing, and a fresh parser reads exactly the same defaults from them.  (A decidable check of the state, not a
    proved property of `loadFiles`: idempotence of `unionDefs` is not proved.  Before 2abd945 it failed for the
    `rootless_regression` history: after the set-up the root-less file was mis-read.) -/
def ctorReloadSafe (env : Env) (p : PState) : Bool :=
  decide (loadFiles env (loadCtx p) p.fileDefs p.stray p.spec.cfgFiles = .ok p.fileDefs p.stray) &&
  decide (loadFiles env (loadCtx (newP p.spec)) [] [] p.spec.cfgFiles = .ok p.fileDefs p.stray)

/-- the part of `safe` that protects the STATE of the parser: a call violating it may leave the parser in a state
    the invariant does not describe, and the theorem stops speaking about that parser -/
def safeState (env : Env) (p : PState) (argv : List Str) : Bool :=
  !p.broken &&
  (if p.spec.cfgFiles.isEmpty then d10Safe env p argv && cfgSetupSafe p
   else
     -- constructor `config_path=` files (without the `--config_path` argument): pristine, or set up with
     -- `ctorReloadSafe`
     !p.spec.cfgPath && (decide (p = newP p.spec) || (p.preDone && ctorReloadSafe env p)))

/-- the part of `safe` that only concerns THIS call's answer: a call violating it gets a wrong answer (D9, late add)
    but leaves the parser as the invariant describes it — later calls are covered again -/
def safeAnswer (env : Env) (p : PState) (argv : List Str) : Bool := d9Safe env p argv && lateSafe p

def safeParse (env : Env) (p : PState) (argv : List Str) : Bool := safeState env p argv && safeAnswer env p argv

/-- `safe` for one call in state `s`: only parse calls can be unsafe -/
def safe (env : Env) (s : State) : Op → Bool
  | .parse i _ argv => (match s.pool i with | some p => safeParse env p argv | none => true)
  | _ => true

/-- does this call keep the parser it addresses inside the invariant? -/
def keeps (env : Env) (s : State) : Op → Bool
  | .parse i _ argv => (match s.pool i with | some p => safeState env p argv | none => true)
  | _ => true

/-! ### the invariant -/

/-- the actions a parser has before `_preprocessing`: help, and `--config_path` once registered -/
def preTbl : Option Val → List Act
  | none => [helpAct]
  | some v => [helpAct, cfgAct v]

/-- the state of a parser that is not set up: nothing but its definition, the pushed defaults and the
    registration of `--config_path` -/
def basePre (p : PState) : PState :=
  { spec := p.spec, table := preTbl p.cfgDefault, fileDefs := p.fileDefs, cfgDefault := p.cfgDefault,
    stray := p.stray }

/-- per parser: once set up, its action table is the table of ITS OWN settings for the frozen wrappers -/
def Core (p : PState) : Prop :=
  (p.preDone = false ∧ p = basePre p) ∨
  (p.preDone = true ∧ tableFor p.spec.cfg p.fileDefs (preTbl p.cfgDefault) p.frozen = some p.table ∧
    p.frozen.map (·.reg) ++ p.late = p.spec.regs)

def InvP (p : PState) : Prop :=
  (p.spec.cfgFiles ≠ [] ∧ p.spec.cfgPath = true) ∨ p.broken = true ∨
  (Core p ∧ (p.spec.cfgPath = false → p.cfgDefault = none))

/-- pool invariant; `t i = true` marks parser `i` as having received an unsafe call since its construction -/
def InvT (s : State) (t : Nat → Bool) : Prop := ∀ i p, s.pool i = some p → t i = false → InvP p

def taintStep (env : Env) (s : State) (t : Nat → Bool) (op : Op) : Nat → Bool :=
  match op with
  | .construct i _ _ _ => fun j => if j = i then false else t j
  | op => if keeps env s op then t else fun j => if j = op.idx then true else t j

/-- every call that is safe, on a parser that only ever received state-keeping calls, agrees with the fresh answer -/
def Monitored (env : Env) : State → (Nat → Bool) → List Op → Prop
  | _, _, [] => True
  | s, t, op :: ops =>
    (safe env s op = true → t op.idx = false → agrees env s op (step env s op).2 = true) ∧
    Monitored env (step env s op).1 (taintStep env s t op) ops

/-! ### the pipeline with the class attributes eliminated

  `preprocess` WRITES the parser's own settings and then READS them (`Env.reassert`, the D5 repair): under that
  hypothesis the incoming class attributes are irrelevant and the pipeline equals the `G`-free one below — this is
  where the repair is load-bearing (`preprocess_fst`; `d5_old_witness` shows it fails without). -/

def preOwn (env : Env) (p : PState) (args : List Str) : PreOut := preprocessAt env p.spec.cfg p args

def finishOwn (env : Env) (p1 : PState) (known : Bool) (rest : List Str) : PState × Out :=
  finishCore env (preOwn env p1 rest) known rest

def parseOwn (env : Env) (p : PState) (known : Bool) (argv : List Str) : PState × Out :=
  if p.broken then (p, .unmodelled "parser left the fragment earlier")
  else
    match cfgPhase env p argv with
    | .stop p1 o => (p1, o)
    | .go p1 rest => finishOwn env p1 known rest

/-- THE place where the D5 repair is used: whatever the class attributes are when `_preprocessing` starts, the
    option strings are generated from the parser's own settings -/
theorem preprocess_fst (env : Env) (hr : env.reassert = true) (G : Cfg) (p : PState) (args : List Str) :
    (preprocess env G p args).1 = preOwn env p args := by
  unfold preprocess preOwn
  cases hpre : p.preDone
  · simp only [hr, Bool.false_eq_true, ↓reduceIte]
  · unfold preprocessAt
    simp only [hpre, ↓reduceIte]

theorem parseP_own (env : Env) (hr : env.reassert = true) (G : Cfg) (p : PState) (known : Bool) (argv : List Str) :
    (parseP env G p known argv).1 = (parseOwn env p known argv).1 ∧
      (parseP env G p known argv).2.1 = (parseOwn env p known argv).2 := by
  unfold parseP parseOwn
  cases hb : p.broken
  · simp only [Bool.false_eq_true, ↓reduceIte]
    cases hc : cfgPhase env p argv with
    | stop p1 o => exact ⟨rfl, rfl⟩
    | go p1 rest =>
      unfold finishP finishOwn
      simp [preprocess_fst env hr]
  · exact ⟨rfl, rfl⟩

theorem fresh_own (env : Env) (hr : env.reassert = true) (spec : Spec) (known : Bool) (argv : List Str) :
    fresh env spec known argv = (parseOwn env (newP spec) known argv).2 :=
  (parseP_own env hr spec.cfg (newP spec) known argv).2

theorem InvP_broken {p : PState} (h : p.broken = true) : InvP p := Or.inr (Or.inl h)

theorem InvP_core {p : PState} (h : Core p) (hconj : p.spec.cfgPath = false → p.cfgDefault = none) : InvP p :=
  Or.inr (Or.inr ⟨h, hconj⟩)

theorem InvP_defs {p : PState} (hpre : p.preDone = false) (h : InvP p) (d : FileC) (st : List (Str × Val)) :
    InvP { p with fileDefs := d, stray := st } := by
  rcases h with h | h | ⟨⟨_, hb⟩ | ⟨h1, _⟩, hconj⟩
  · exact Or.inl h
  · exact InvP_broken h
  · exact InvP_core (Or.inl ⟨hpre, by rw [hb]; rfl⟩) hconj
  · rw [hpre] at h1; cases h1

def _root_.SpVerif.History.PreOut.st : PreOut → PState
  | .ok p => p
  | .stop p _ => p

theorem chooseAll_regs {env : Env} {G : Cfg} {regs : List Reg} {args : List Str} {fregs : List FReg}
    (h : chooseAll env G regs args = .ok fregs) : fregs.map (·.reg) = regs := by
  have key : ∀ (f : Reg → FReg), (∀ r, (f r).reg = r) → (regs.map f).map (·.reg) = regs := by
    intro f hf
    rw [List.map_map]
    exact List.map_id'' hf regs
  -- the two branches of `chooseAll` that answer `.ok` map such an `f` over `regs`
  revert h
  fun_cases chooseAll env G regs args <;> intro h <;> cases h
  · exact key _ fun _ => rfl
  · exact key _ fun r => by cases r.cls.sub <;> rfl

theorem tableFor_eq_some {G : Cfg} {defs : FileC} {pre : List Act} {fregs : List FReg} {tbl : List Act} :
    tableFor G defs pre fregs = some tbl ↔
      ∃ acts, buildActs G defs fregs = some acts ∧ tableOk (pre ++ acts) = true ∧ tbl = pre ++ acts := by
  unfold tableFor
  cases buildActs G defs fregs with
  | none => simp
  | some acts =>
    cases hok : tableOk (pre ++ acts) <;> simp [hok]
    exact eq_comm

theorem tableFor_append {G : Cfg} {defs : FileC} {pre : List Act} {fregs : List FReg} {tbl : List Act}
    (h : tableFor G defs pre fregs = some tbl) : ∃ acts, tbl = pre ++ acts := by
  obtain ⟨acts, _, _, e⟩ := tableFor_eq_some.mp h
  exact ⟨acts, e⟩

/-- only the option strings are looked at when the table is built, not the default shown for `--config_path` -/
theorem tableFor_cfgDefault {G : Cfg} {defs : FileC} {fregs : List FReg} {tbl : List Act} {d : Val} (v : Val)
    (h : tableFor G defs [helpAct, cfgAct d] fregs = some tbl) :
    ∃ acts, tbl = [helpAct, cfgAct d] ++ acts ∧
      tableFor G defs [helpAct, cfgAct v] fregs = some ([helpAct, cfgAct v] ++ acts) := by
  obtain ⟨acts, hacts, hok, e⟩ := tableFor_eq_some.mp h
  exact ⟨acts, e, tableFor_eq_some.mpr ⟨acts, hacts, hok, rfl⟩⟩

theorem setCfgDefault_pre (d v : Val) (acts : List Act) :
    setCfgDefault v ([helpAct, cfgAct d] ++ acts) = [helpAct, cfgAct v] ++ acts := by
  have h1 : helpAct.dest ≠ cfgDest := by
    unfold helpAct cfgDest
    simp only [String.toList_lit rfl]
    decide
  simp only [List.cons_append, List.nil_append, setCfgDefault, cfgAct, if_neg h1, ↓reduceIte]

theorem preprocess_done {env : Env} {p : PState} (h : p.preDone = true) (args : List Str) :
    preOwn env p args = .ok p := by
  unfold preOwn preprocessAt; simp [h]

theorem preOwn_cases {env : Env} {p : PState} (hpre : p.preDone = false) (args : List Str) :
    (∃ o, preOwn env p args = .stop p o) ∨ (∃ o, preOwn env p args = .stop { p with broken := true } o) ∨
    ∃ fregs tbl, chooseAll env p.spec.cfg p.spec.regs args = .ok fregs ∧
      tableFor p.spec.cfg p.fileDefs p.table fregs = some tbl ∧
      preOwn env p args = .ok { p with preDone := true, table := tbl, frozen := fregs } := by
  unfold preOwn
  fun_cases preprocessAt env p.spec.cfg p args
  next h => rw [hpre] at h; cases h
  · exact Or.inr (Or.inl ⟨_, rfl⟩)
  · exact Or.inl ⟨_, rfl⟩
  · exact Or.inr (Or.inl ⟨_, rfl⟩)
  · exact Or.inr (Or.inr ⟨_, _, ‹_›, ‹_›, rfl⟩)

theorem preOwn_setup {env : Env} {p : PState} {args : List Str} {fregs : List FReg} {tbl : List Act}
    (hpre : p.preDone = false) (hch : chooseAll env p.spec.cfg p.spec.regs args = .ok fregs)
    (htbl : tableFor p.spec.cfg p.fileDefs p.table fregs = some tbl) :
    preOwn env p args = .ok { p with preDone := true, table := tbl, frozen := fregs } := by
  unfold preOwn preprocessAt
  simp only [hpre, Bool.false_eq_true, ↓reduceIte, hch, htbl]

theorem preprocess_spec (env : Env) (p : PState) (args : List Str) :
    (preOwn env p args).st.spec = p.spec := by
  cases hpre : p.preDone
  · rcases preOwn_cases hpre args with ⟨o, e⟩ | ⟨o, e⟩ | ⟨_, _, _, _, e⟩ <;> rw [e] <;> rfl
  · rw [preprocess_done hpre]; rfl

theorem preOwn_inv (env : Env) (p : PState) (args : List Str) (hpre : p.preDone = false) (h : InvP p) :
    InvP (preOwn env p args).st := by
  rcases preOwn_cases hpre args with ⟨o, e⟩ | ⟨o, e⟩ | ⟨fregs, tbl, hch, htbl, e⟩ <;> rw [e]
  · exact h
  · exact InvP_broken rfl
  · rcases h with h | h | ⟨⟨_, hb⟩ | ⟨h1, _⟩, hconj⟩
    · exact Or.inl h
    · exact InvP_broken h
    · -- `p = basePre p`: the table so far is `preTbl`, nothing was registered late
      rw [congrArg PState.table hb] at htbl
      refine InvP_core (Or.inr ⟨rfl, htbl, ?_⟩) hconj
      show fregs.map (·.reg) ++ p.late = p.spec.regs
      rw [congrArg PState.late hb, chooseAll_regs hch]
      exact List.append_nil _
    · rw [hpre] at h1; cases h1

theorem finishCore_st (env : Env) (r : PreOut) (known : Bool) (rest : List Str) :
    (finishCore env r known rest).1 = r.st ∨ (finishCore env r known rest).1 = { r.st with broken := true } := by
  fun_cases finishCore env r known rest
  · exact Or.inl rfl
  · exact Or.inr rfl
  · exact Or.inl rfl

theorem finishCore_out (env : Env) (p : PState) (known : Bool) (rest : List Str) :
    (finishCore env (.ok p) known rest).2 = finishOut env p.table p.frozen p.late p.fileDefs p.stray known rest := by
  simp only [finishCore]
  split <;> simp only [*]

theorem finishP_spec (env : Env) (p : PState) (known : Bool) (rest : List Str) :
    (finishOwn env p known rest).1.spec = p.spec := by
  unfold finishOwn
  rcases finishCore_st env (preOwn env p rest) known rest with e | e <;> rw [e] <;> exact preprocess_spec env p rest

/-- from a parser that is not set up, `_preprocessing` + parse + `_postprocessing` keep the invariant -/
theorem finishOwn_inv (env : Env) (p : PState) (known : Bool) (rest : List Str) (hpre : p.preDone = false)
    (h : InvP p) : InvP (finishOwn env p known rest).1 := by
  unfold finishOwn
  rcases finishCore_st env (preOwn env p rest) known rest with e | e <;> rw [e]
  · exact preOwn_inv env p rest hpre h
  · exact InvP_broken rfl

/-- how the prologue ends: outside the fragment; stopped (file missing, scan rejected) with at most new pushed
    defaults; gone through without the `--config_path` argument; or gone through with it, the option registered on the
    first call and its shown default refreshed on later ones -/
theorem cfgPhase_cases (env : Env) (p : PState) (argv : List Str) :
    (∃ d st o, cfgPhase env p argv = .stop { p with fileDefs := d, stray := st, broken := true } o) ∨
    (∃ d st o, cfgPhase env p argv = .stop { p with fileDefs := d, stray := st } o) ∨
    (∃ d st, cfgPhase env p argv = .go { p with fileDefs := d, stray := st } argv) ∨
    (∃ d st v rest, p.spec.cfgPath = true ∧ cfgPhase env p argv =
      .go { p with fileDefs := d, stray := st, cfgDefault := some v,
                   table := match p.cfgDefault with
                     | none => p.table ++ [cfgAct v]
                     | some _ => setCfgDefault v p.table } rest) := by
  fun_cases cfgPhase env p argv
  · exact Or.inl ⟨_, _, _, rfl⟩
  · exact Or.inr (Or.inl ⟨_, _, _, rfl⟩)
  · exact Or.inr (Or.inr (Or.inl ⟨_, _, rfl⟩))
  · exact Or.inl ⟨_, _, _, rfl⟩
  · exact Or.inl ⟨_, _, _, rfl⟩
  · exact Or.inr (Or.inl ⟨_, _, _, rfl⟩)
  · exact Or.inl ⟨_, _, _, rfl⟩
  · exact Or.inr (Or.inl ⟨_, _, _, rfl⟩)
  all_goals
    have hd : p.cfgDefault = _ := ‹_›
    rw [hd]
    exact Or.inr (Or.inr (Or.inr ⟨_, _, _, _, by simpa using ‹¬(!p.spec.cfgPath) = true›, rfl⟩))

theorem cfgPhase_noArg {env : Env} {p : PState} {d : FileC} {st : List (Str × Val)} (argv : List Str)
    (hc : p.spec.cfgPath = false)
    (hl : loadFiles env (loadCtx p) p.fileDefs p.stray p.spec.cfgFiles = .ok d st) :
    cfgPhase env p argv = .go { p with fileDefs := d, stray := st } argv := by
  unfold cfgPhase
  rw [hl]
  simp [hc]

theorem cfgPhase_arg {env : Env} {p : PState} {argv : List Str} {sc : Scan}
    (hf : p.spec.cfgFiles = []) (hc : p.spec.cfgPath = true)
    (hs : cfgScan env true argv = .ok sc) (hn : sc.names = []) :
    cfgPhase env p argv =
      .go { p with cfgDefault := some sc.v,
                   table := match p.cfgDefault with
                     | none => p.table ++ [cfgAct sc.v]
                     | some _ => setCfgDefault sc.v p.table } sc.rest := by
  unfold cfgPhase
  simp only [hf, hc, hs, hn, loadFiles, List.isEmpty_nil, Bool.not_true, Bool.false_eq_true, ↓reduceIte]
  cases p.cfgDefault <;> rfl

/-- the scan of the temporary parser rejected argv: same answer whatever the state -/
theorem cfgPhase_scan_err {env : Env} {p : PState} {argv : List Str} {o : Out}
    (hf : p.spec.cfgFiles = []) (hc : p.spec.cfgPath = true) (hs : cfgScan env true argv = .error o) :
    cfgPhase env p argv =
      .stop (match o with | .unmodelled _ => { p with broken := true } | _ => p) o := by
  unfold cfgPhase
  simp only [hf, hc, hs, loadFiles, List.isEmpty_nil, Bool.false_eq_true, ↓reduceIte, Bool.not_true]
  cases o <;> rfl

theorem scan_plain (env : Env) (argv : List Str) :
    cfgScan env false argv = .ok { rest := argv, v := .sc .none, names := [] } := rfl

theorem parseOwn_stop {env : Env} {p p1 : PState} {argv : List Str} {o : Out} (known : Bool)
    (hb : p.broken = false) (h : cfgPhase env p argv = .stop p1 o) : parseOwn env p known argv = (p1, o) := by
  unfold parseOwn
  rw [if_neg (by simp [hb]), h]

theorem parseOwn_go {env : Env} {p p1 : PState} {argv rest : List Str} (known : Bool)
    (hb : p.broken = false) (h : cfgPhase env p argv = .go p1 rest) :
    parseOwn env p known argv = finishOwn env p1 known rest := by
  unfold parseOwn
  rw [if_neg (by simp [hb]), h]

theorem parseP_spec (env : Env) (p : PState) (known : Bool) (argv : List Str) :
    (parseOwn env p known argv).1.spec = p.spec := by
  cases hb : p.broken
  · rcases cfgPhase_cases env p argv with ⟨_, _, _, e⟩ | ⟨_, _, _, e⟩ | ⟨_, _, e⟩ | ⟨_, _, _, _, _, e⟩
    · rw [parseOwn_stop known hb e]
    · rw [parseOwn_stop known hb e]
    · rw [parseOwn_go known hb e]; exact finishP_spec env _ known _
    · rw [parseOwn_go known hb e]; exact finishP_spec env _ known _
  · unfold parseOwn
    rw [if_pos hb]

theorem parseOwn_new_inv (env : Env) (spec : Spec) (known : Bool) (argv : List Str) :
    InvP (parseOwn env (newP spec) known argv).1 := by
  have base : ∀ d st, InvP { newP spec with fileDefs := d, stray := st } :=
    fun _ _ => InvP_core (Or.inl ⟨rfl, rfl⟩) fun _ => rfl
  rcases cfgPhase_cases env (newP spec) argv with ⟨_, _, _, e⟩ | ⟨_, _, _, e⟩ | ⟨_, _, e⟩ | ⟨_, _, _, _, hc, e⟩
  · rw [parseOwn_stop known rfl e]; exact InvP_broken rfl
  · rw [parseOwn_stop known rfl e]; exact base _ _
  · rw [parseOwn_go known rfl e]; exact finishOwn_inv env _ known _ rfl (base _ _)
  · rw [parseOwn_go known rfl e]
    refine finishOwn_inv env _ known _ rfl (InvP_core (Or.inl ⟨rfl, rfl⟩) fun hc' => ?_)
    cases hc.symm.trans hc'

theorem parseOwn_answer {env : Env} {p p1 q : PState} {argv rest : List Str} (known : Bool)
    (hb : p.broken = false) (hgo : cfgPhase env p argv = .go p1 rest) (hq : preOwn env p1 rest = .ok q) :
    (parseOwn env p known argv).2 = finishOut env q.table q.frozen q.late q.fileDefs q.stray known rest ∧
      ((parseOwn env p known argv).1 = q ∨ (parseOwn env p known argv).1 = { q with broken := true }) := by
  rw [parseOwn_go known hb hgo]
  unfold finishOwn
  rw [hq]
  exact ⟨finishCore_out env q known rest, finishCore_st env (.ok q) known rest⟩

theorem parseOwn_done {env : Env} {p p1 : PState} {argv rest : List Str} (known : Bool)
    (hb : p.broken = false) (hgo : cfgPhase env p argv = .go p1 rest) (h1 : p1.preDone = true) :
    (parseOwn env p known argv).2 = finishOut env p1.table p1.frozen p1.late p1.fileDefs p1.stray known rest ∧
      ((parseOwn env p known argv).1 = p1 ∨ (parseOwn env p known argv).1 = { p1 with broken := true }) :=
  parseOwn_answer known hb hgo (preprocess_done h1 rest)

theorem parseOwn_scan_err {env : Env} (p : PState) (known : Bool) {argv : List Str} {o : Out}
    (hf : p.spec.cfgFiles = []) (hc : p.spec.cfgPath = true) (hb : p.broken = false)
    (hs : cfgScan env true argv = .error o) :
    (parseOwn env p known argv).2 = o ∧
      ((parseOwn env p known argv).1 = p ∨ (parseOwn env p known argv).1 = { p with broken := true }) := by
  rw [parseOwn_stop known hb (cfgPhase_scan_err hf hc hs)]
  cases o with
  | unmodelled w => exact ⟨rfl, Or.inr rfl⟩
  | _ => exact ⟨rfl, Or.inl rfl⟩

/-! ### the step lemmas -/

theorem addP_inv (p : PState) (r : Reg) (h : InvP p) : InvP (addP p r).1 := by
  fun_cases addP p r
  · exact InvP_broken rfl
  · exact InvP_broken rfl
  -- the registration is appended, to `late` as well once the parser is set up (`hpre`)
  all_goals
    rename_i hpre
    rcases h with h | h | ⟨⟨h1, hb⟩ | ⟨h1, h2, h3⟩, hconj⟩
    · exact Or.inl h
    · exact InvP_broken h
  · rw [hpre] at h1; cases h1
  · refine InvP_core (Or.inr ⟨h1, h2, ?_⟩) hconj
    show p.frozen.map (·.reg) ++ (p.late ++ [r]) = p.spec.regs ++ [r]
    rw [← List.append_assoc, h3]
  · exact InvP_core (Or.inl ⟨h1, by rw [hb]; rfl⟩) hconj
  · exact absurd h1 hpre

theorem helpCore_st (r : PreOut) : (helpCore r).1 = r.st := by cases r <;> rfl

theorem helpP_inv (env : Env) (hr : env.reassert = true) (G : Cfg) (p : PState) (h : InvP p) :
    InvP (helpP env G p).1 := by
  fun_cases helpP env G p
  · exact h
  · exact h
  · exact InvP_broken rfl
  all_goals
    have hpre : p.preDone = false := by simpa using ‹¬p.preDone = true›
  · exact InvP_defs hpre h _ _
  · dsimp only
    rw [preprocess_fst env hr, helpCore_st]
    exact preOwn_inv env _ [] hpre (InvP_defs hpre h _ _)

theorem d9_facts {env : Env} {p : PState} {argv : List Str} {sc : Scan} (h9 : d9Safe env p argv = true)
    (h1 : p.preDone = true) (hsc : cfgScan env p.spec.cfgPath argv = .ok sc) :
    chooseAll env p.spec.cfg p.spec.regs sc.rest = .ok p.frozen := by
  simp only [d9Safe, h1, hsc, Bool.not_true, Bool.false_or] at h9
  split at h9
  · rename_i fregs heq
    rw [heq, of_decide_eq_true h9]
  · cases h9

/-- The parsers `safeState` admits under the invariant: a pristine one; or one that is set up and either has no
    `--config_path` argument and constructor files that read the same again and afresh, or has the argument
    registered, no pushed defaults, and is given an argv that names no file. -/
theorem safe_cases {env : Env} {p : PState} {argv : List Str} (hst : safeState env p argv = true) (h : InvP p) :
    p = newP p.spec ∨
    (p.broken = false ∧ p.preDone = true ∧
      tableFor p.spec.cfg p.fileDefs (preTbl p.cfgDefault) p.frozen = some p.table ∧
      p.frozen.map (·.reg) ++ p.late = p.spec.regs ∧
      ((p.spec.cfgPath = false ∧ p.cfgDefault = none ∧
          loadFiles env (loadCtx p) p.fileDefs p.stray p.spec.cfgFiles = .ok p.fileDefs p.stray ∧
          loadFiles env (loadCtx (newP p.spec)) [] [] p.spec.cfgFiles = .ok p.fileDefs p.stray) ∨
       (p.spec.cfgPath = true ∧ p.spec.cfgFiles = [] ∧ p.fileDefs = [] ∧ p.stray = [] ∧
          (∃ d, p.cfgDefault = some d) ∧ ∀ sc, cfgScan env true argv = .ok sc → sc.names = []))) := by
  cases hfe : p.spec.cfgFiles.isEmpty
  · -- constructor `config_path=` files: `safeState` itself says pristine, or set up and reloading changes nothing
    simp only [safeState, hfe, Bool.false_eq_true, ↓reduceIte, Bool.and_eq_true, Bool.or_eq_true, decide_eq_true_eq,
      Bool.not_eq_eq_eq_not, Bool.not_true, ctorReloadSafe] at hst
    obtain ⟨hb, hc, hp | ⟨h1, hre1, hre2⟩⟩ := hst
    · exact Or.inl hp
    · rcases h with h | h | ⟨⟨h0, _⟩ | ⟨_, h2, h3⟩, hconj⟩
      · rw [hc] at h; cases h.2
      · rw [hb] at h; cases h
      · rw [h1] at h0; cases h0
      · exact Or.inr ⟨hb, h1, h2, h3, Or.inl ⟨hc, hconj hc, hre1, hre2⟩⟩
  · have hf : p.spec.cfgFiles = [] := List.isEmpty_iff.mp hfe
    simp only [safeState, hf, List.isEmpty_nil, ↓reduceIte, Bool.and_eq_true, Bool.not_eq_eq_eq_not, Bool.not_true,
      d10Safe, decide_eq_true_eq, cfgSetupSafe, Bool.or_eq_true, beq_iff_eq] at hst
    obtain ⟨hb, ⟨⟨hdefs, hstray⟩, hscan⟩, hset⟩ := hst
    rcases h with h | h | ⟨⟨h1, hbase⟩ | ⟨h1, h2, h3⟩, hconj⟩
    · exact absurd hf h.1
    · rw [hb] at h; cases h
    · -- not set up, nothing pushed, `--config_path` not registered: pristine
      left
      have hnone : p.cfgDefault = none := by
        cases hc : p.spec.cfgPath
        · exact hconj hc
        · simpa [hc, h1] using hset
      calc p = basePre p := hbase
        _ = newP p.spec := by unfold basePre newP; simp [hnone, hdefs, hstray, preTbl]
    · right
      refine ⟨hb, h1, h2, h3, ?_⟩
      cases hc : p.spec.cfgPath
      · exact Or.inl ⟨rfl, hconj hc, by rw [hf]; rfl, by rw [hf, hdefs, hstray]; rfl⟩
      · refine Or.inr ⟨rfl, hf, hdefs, hstray, Option.isSome_iff_exists.mp (by simpa [hc, h1] using hset), ?_⟩
        intro sc hsc
        simpa [h1, hc, hsc] using hscan

/-- a state-keeping parse keeps the invariant — whatever THIS call's answer is worth (D9 / late add included) — and
    if the call is `safeAnswer` too, it answers like a fresh parser -/
theorem parseOwn_safe (env : Env) (p : PState) (known : Bool) (argv : List Str)
    (hst : safeState env p argv = true) (h : InvP p) :
    InvP (parseOwn env p known argv).1 ∧
      (safeAnswer env p argv = true → (parseOwn env p known argv).2 = (parseOwn env (newP p.spec) known argv).2) := by
  rcases safe_cases hst h with hp | ⟨hb, h1, h2, h3, hcfg⟩
  · rw [hp]
    exact ⟨parseOwn_new_inv env p.spec known argv, fun _ => rfl⟩
  rcases hcfg with ⟨hc, hnone, hre1, hre2⟩ | ⟨hc, hf, hdefs, hstray, ⟨d, hd⟩, hn⟩
  · -- no `--config_path` argument: the prologue leaves the parser as it is
    obtain ⟨hout, hstate⟩ := parseOwn_done known hb (cfgPhase_noArg argv hc hre1) h1
    constructor
    · rcases hstate with e | e <;> rw [e]
      · exact h
      · exact InvP_broken rfl
    · intro han
      simp only [safeAnswer, lateSafe, Bool.and_eq_true, List.isEmpty_iff] at han
      have hch := d9_facts han.1 h1 (by rw [hc]; rfl)
      rw [hnone] at h2
      rw [hout, (parseOwn_answer known rfl (cfgPhase_noArg (p := newP p.spec) argv hc hre2) (preOwn_setup rfl hch h2)).1, han.2]
      rfl
  · cases hsc : cfgScan env true argv with
    | error o =>
      obtain ⟨hout, hstate⟩ := parseOwn_scan_err p known hf hc hb hsc
      constructor
      · rcases hstate with e | e <;> rw [e]
        · exact h
        · exact InvP_broken rfl
      · intro _
        rw [hout, (parseOwn_scan_err (newP p.spec) known hf hc rfl hsc).1]
    | ok sc =>
      -- only the default shown for `--config_path` changes, in the parser and in its table
      rw [hd] at h2
      obtain ⟨acts, htab, htbl⟩ := tableFor_cfgDefault sc.v h2
      have hgo := cfgPhase_arg (p := p) hf hc hsc (hn sc hsc)
      simp only [hd] at hgo
      rw [htab, setCfgDefault_pre] at hgo
      obtain ⟨hout, hstate⟩ := parseOwn_done known hb hgo h1
      constructor
      · rcases hstate with e | e <;> rw [e]
        · exact InvP_core (Or.inr ⟨h1, htbl, h3⟩) fun hc' => by rw [hc] at hc'; cases hc'
        · exact InvP_broken rfl
      · intro han
        simp only [safeAnswer, lateSafe, Bool.and_eq_true, List.isEmpty_iff] at han
        have hch := d9_facts han.1 h1 (by rw [hc]; exact hsc)
        rw [hdefs] at htbl
        rw [hout, (parseOwn_answer known rfl (cfgPhase_arg (p := newP p.spec) hf hc hsc (hn sc hsc)) (preOwn_setup rfl hch htbl)).1,
          han.2, hdefs, hstray]
        rfl

/-! ### lifting to the pool and to all histories -/

theorem InvT_set {s : State} {t t' : Nat → Bool} (h : InvT s t) (G : Cfg) (i : Nat) (p' : PState)
    (hi : t' i = false → InvP p') (ho : ∀ j, j ≠ i → t' j = false → t j = false) :
    InvT { G := G, pool := setPool s.pool i p' } t' := by
  intro j q hq ht
  have hq : (if j = i then some p' else s.pool j) = some q := hq
  by_cases hji : j = i
  · rw [if_pos hji] at hq
    cases hq
    exact hi (hji ▸ ht)
  · rw [if_neg hji] at hq
    exact h j q hq (ho j hji ht)

theorem taintStep_other {env : Env} {s : State} {t : Nat → Bool} {op : Op} {j : Nat} (h : j ≠ op.idx) :
    taintStep env s t op j = t j := by
  fun_cases taintStep env s t op
  · exact if_neg h
  · rfl
  · exact if_neg h

/-- one call keeps the pool invariant (a call that does not keep the state only taints the parser it was made on) -/
theorem step_inv (env : Env) (hr : env.reassert = true) (s : State) (t : Nat → Bool) (op : Op) (h : InvT s t) :
    InvT (step env s op).1 (taintStep env s t op) := by
  have other : ∀ j, j ≠ op.idx → taintStep env s t op j = false → t j = false :=
    fun j hj ht => (taintStep_other hj).symm.trans ht
  cases op with
  | construct i cfg cp fs =>
    exact InvT_set h _ i _ (fun _ => InvP_core (Or.inl ⟨rfl, rfl⟩) fun _ => rfl) other
  | add i r =>
    simp only [step]
    cases hp : s.pool i with
    | none => exact h
    | some p => exact InvT_set h _ i _ (fun ht => addP_inv p r (h i p hp ht)) fun _ _ ht => ht
  | parse i known argv =>
    simp only [step]
    cases hp : s.pool i with
    | none =>
      have : taintStep env s t (.parse i known argv) = t := by simp only [taintStep, keeps, hp, ↓reduceIte]
      rw [this]
      exact h
    | some p =>
      refine InvT_set h _ i _ (fun ht => ?_) other
      rw [(parseP_own env hr s.G p known argv).1]
      cases hkeep : safeState env p argv with
      | false => simp [taintStep, keeps, hp, hkeep, Op.idx] at ht
      | true =>
        simp only [taintStep, keeps, hp, hkeep, ↓reduceIte] at ht
        exact (parseOwn_safe env p known argv hkeep (h i p hp ht)).1
  | printHelp i =>
    simp only [step]
    cases hp : s.pool i with
    | none => exact h
    | some p => exact InvT_set h _ i _ (fun ht => helpP_inv env hr s.G p (h i p hp ht)) fun _ _ ht => ht
  | formatHelp i =>
    simp only [step]
    cases hp : s.pool i <;> exact h

theorem step_agrees (env : Env) (hr : env.reassert = true) (s : State) (t : Nat → Bool) (op : Op) (h : InvT s t)
    (hs : safe env s op = true) (ht : t op.idx = false) : agrees env s op (step env s op).2 = true := by
  cases op with
  | parse i known argv =>
    cases hp : s.pool i with
    | none => simp only [agrees, hp]
    | some p =>
      simp only [safe, hp, safeParse, Bool.and_eq_true] at hs
      simp only [agrees, step, hp, decide_eq_true_eq]
      rw [(parseP_own env hr s.G p known argv).2, fresh_own env hr]
      exact (parseOwn_safe env p known argv hs.1 (h i p hp ht)).2 hs.2
  | _ => rfl

/-- **C08 (partial)**: in EVERY history, every safe parse call on a parser that only received state-keeping calls
    since its construction returns exactly what a freshly built, identically configured parser returns — whatever
    the class attributes are at that moment, i.e. whatever other parsers were constructed or used in between
    (hypothesis `env.reassert`: the current tree; without it the statement is false, `d5_old_witness`). -/
theorem c08_partial (env : Env) (hr : env.reassert = true) :
    ∀ (ops : List Op) (s : State) (t : Nat → Bool), InvT s t → Monitored env s t ops
  | [], _, _, _ => trivial
  | op :: ops, s, t, h =>
    ⟨fun hs ht => step_agrees env hr s t op h hs ht, c08_partial env hr ops _ _ (step_inv env hr s t op h)⟩

theorem inv_init : InvT init (fun _ => false) := by
  intro i p hp _
  cases hp

/-- from process start, for all histories -/
theorem c08_partial_init (env : Env) (hr : env.reassert = true) (ops : List Op) :
    Monitored env init (fun _ => false) ops :=
  c08_partial env hr ops init _ inv_init

/-- every call of the history is safe in the state it is made in -/
def safeHist (env : Env) : State → List Op → Bool
  | _, [] => true
  | s, op :: ops => safe env s op && safeHist env (step env s op).1 ops

theorem taintStep_safe {env : Env} {s : State} {op : Op} (hs : safe env s op = true) :
    taintStep env s (fun _ => false) op = fun _ => false := by
  cases op with
  | parse i known argv =>
    have hk : keeps env s (.parse i known argv) = true := by
      simp only [safe, keeps] at hs ⊢
      cases hp : s.pool i with
      | none => rfl
      | some p =>
        simp only [hp, safeParse, Bool.and_eq_true] at hs
        exact hs.1
    simp only [taintStep, hk, ↓reduceIte]
  | construct i _ _ _ => funext j; exact ite_self _
  | _ => rfl

/-- plain form: a history all of whose calls avoid the named exclusions satisfies the full statement -/
theorem c08_partial_safeHist (env : Env) (hr : env.reassert = true) :
    ∀ (ops : List Op) (s : State), InvT s (fun _ => false) → safeHist env s ops = true → allAgree env s ops = true
  | [], _, _, _ => rfl
  | op :: ops, s, h, hs => by
    simp only [safeHist, Bool.and_eq_true] at hs
    simp only [allAgree, Bool.and_eq_true]
    refine ⟨step_agrees env hr s _ op h hs.1 rfl, ?_⟩
    have := step_inv env hr s _ op h
    rw [taintStep_safe hs.1] at this
    exact c08_partial_safeHist env hr ops _ this hs.2

/-- the hypothesis is repeated in the conclusion: the form in which the regression theorems below are stated -/
theorem safeHist_agrees {env : Env} (hr : env.reassert = true) {ops : List Op} (h : safeHist env init ops = true) :
    allAgree env init ops = true ∧ safeHist env init ops = true :=
  ⟨c08_partial_safeHist env hr ops init inv_init h, h⟩

theorem unsafe_of_disagree {env : Env} (hr : env.reassert = true) {ops : List Op}
    (h : allAgree env init ops = false) : safeHist env init ops = false := by
  cases hs : safeHist env init ops
  · rfl
  · rw [(safeHist_agrees hr hs).1] at h
    cases h

/-- "construction or use of other parsers with different settings": a parse answers the same whatever the class
    attributes are when it is made — BECAUSE `_preprocessing` writes the parser's own settings before reading them
    (`preprocess_fst`); false for the tree before 7b430cf (`d5_old_witness`) -/
theorem parse_out_indep_of_globals (env : Env) (hr : env.reassert = true) (G G' : Cfg) (p : PState) (known : Bool)
    (argv : List Str) : (parseP env G p known argv).2.1 = (parseP env G' p known argv).2.1 := by
  rw [(parseP_own env hr G p known argv).2, (parseP_own env hr G' p known argv).2]

def cU : Cfg := { dash := .underscore, gen := .flat, nest := .default }
def cD : Cfg := { dash := .dashOnly, gen := .flat, nest := .default }
def cW : Cfg := { dash := .underscore, gen := .flat, nest := .withoutRoot }

def fInt (n : String) (d : Int) : FieldSpec :=
  { name := n.toList, ty := { inner := .sc (.base .int), optional := false }, default := .value (.sc (.int d)) }

/-- `class A: a_b: int = 1` -/
def clsA : ClassSpec := { name := "A".toList, fields := [fInt "a_b" 1], sub := none }
/-- `class B: lr: int` (required) -/
def clsB : ClassSpec :=
  { name := "B".toList, sub := none,
    fields := [{ name := "lr".toList, ty := { inner := .sc (.base .int), optional := false }, default := .missing }] }
/-- `class T: tup: Tuple[int, str, float] = (1, "a", 2.0)` -/
def clsT : ClassSpec :=
  { name := "T".toList, sub := none,
    fields := [{ name := "tup".toList,
                 ty := { inner := .tuple [.base .int, .base .str, .base .float], optional := false },
                 default := .value (.tuple [.int 1, .str "a".toList, .float "2.0".toList]) }] }
/-- `class S: mod: X | Y = subgroups({"x": X, "y": Y}, default="x")` with `X: xv: int = 1`, `Y: yv: int = 2` -/
def clsS : ClassSpec :=
  { name := "S".toList, fields := [],
    sub := some { name := "mod".toList, default := "x".toList,
                  alts := [{ key := "x".toList, cls := "X".toList, fields := [fInt "xv" 1] },
                           { key := "y".toList, cls := "Y".toList, fields := [fInt "yv" 2] }] } }
/-- `class K: tag: str = field(default="0", type=int)` -/
def clsK : ClassSpec :=
  { name := "K".toList, sub := none, custom := [("tag".toList, .int)],
    fields := [{ name := "tag".toList, ty := { inner := .sc (.base .str), optional := false },
                 default := .value (.sc (.str "0".toList)) }] }

def env0 : Env :=
  { fenv := [("2.5".toList, some "2.5".toList)],
    files := [("f0.json".toList, some (.rooted [("a".toList, [("a_b".toList, .sc (.int 7))])])),
              ("r0.json".toList, some (.rootless [("a_b".toList, .sc (.int 13))])),
              ("rs.json".toList, some (.rootless [("k".toList, .sc (.int 5))]))] }

/-- the same world with the tree BEFORE the D5 repair 7b430cf (`_preprocessing` reads whatever the class holds) -/
def env0Old : Env := { env0 with reassert := false }

/-- `class SK: k: int = 0; mod: X | Y = subgroups(…)` -/
def clsSK : ClassSpec := { clsS with name := "SK".toList, fields := [fInt "k" 0] }

def mkP (i : Nat) (c : Cfg) (cls : ClassSpec) (dest : String) (cp := false) (fs : List String := []) : List Op :=
  [.construct i c cp (fs.map String.toList), .add i { dest := dest.toList, cls := cls }]

def argvOf (l : List String) : List Str := l.map String.toList

/-- D9: `--mod y` first, `--mod x` afterwards still yields the `y` alternative -/
def d9Hist : List Op :=
  mkP 0 cU clsS "s" ++ [.parse 0 false (argvOf ["--mod", "y"]), .parse 0 false (argvOf ["--mod", "x"])]
/-- D9 through `print_help`: the default alternative is frozen -/
def d9HelpHist : List Op := mkP 0 cU clsS "s" ++ [.printHelp 0, .parse 0 false (argvOf ["--mod", "y"])]
/-- D10 (reachable since D6 is repaired): the file of the first call persists into the second -/
def d10Hist : List Op :=
  mkP 0 cU clsA "a" (cp := true) ++ [.parse 0 false (argvOf ["--config_path", "f0.json"]), .parse 0 false []]
/-- D10, the other way round: a file given to a parser that is already set up is read but ignored -/
def d10LaterHist : List Op :=
  mkP 0 cU clsA "a" (cp := true) ++ [.parse 0 false [], .parse 0 false (argvOf ["--config_path", "f0.json"])]
/-- D10 through `print_help`: the actions are frozen before the file is read -/
def d10HelpHist : List Op :=
  mkP 0 cU clsA "a" (cp := true) ++ [.printHelp 0, .parse 0 false (argvOf ["--config_path", "f0.json"])]
/-- `add_arguments` after the first parse: accepted, never turned into options -/
def lateAddHist : List Op :=
  mkP 0 cU clsA "a" ++ [.parse 0 false [], .add 0 { dest := "b".toList, cls := clsB }, .parse 0 false (argvOf ["--lr", "2"])]

/-- D9, the facet with FAILED parses: after `--mod y`, the command line `--yv q --mod z` stops at the bad int on the
    frozen parser (which knows `--yv`), at the invalid choice on a fresh one — another kind of exit 2.  This is why
    `d9Safe` also excludes an argv the choice parser rejects. -/
def d9ErrHist : List Op :=
  mkP 0 cU clsS "s" ++ [.parse 0 false (argvOf ["--mod", "y"]), .parse 0 false (argvOf ["--yv", "q", "--mod", "z"])]
/-- … while a rejected choice alone, between two agreeing parses, does no harm at all: `safe` is sufficient, not
    necessary -/
def d9RejectedHist : List Op :=
  mkP 0 cU clsS "s" ++ [.parse 0 false (argvOf ["--mod", "y"]), .parse 0 false (argvOf ["--mod", "z"]),
    .parse 0 false (argvOf ["--mod", "y"])]
/-- found in round 2, repaired by 2abd945: a WITHOUT_ROOT parser with a root-less constructor file over a class with
    a subgroups field.  `set_defaults` tested `len(self._wrappers) == 1` after `_preprocessing` had flattened the child
    wrapper into `_wrappers`, so from the 2nd call on the file's keys became parser-level defaults (a stray top-level
    attribute `k`); now only the top-level wrappers count (parsing.py:412-422) -/
def rootlessHist : List Op := mkP 0 cW clsSK "s" (fs := ["rs.json"]) ++ [.parse 0 false [], .parse 0 false []]
/-- the same through `--config_path` on the command line -/
def rootlessArgvHist : List Op :=
  mkP 0 cW clsSK "s" (cp := true) ++ [.parse 0 false (argvOf ["--config_path", "rs.json"]),
    .parse 0 false (argvOf ["--config_path", "rs.json"])]

/-- D8 (repaired by b1a5942): a heterogeneous tuple parsed twice on the same parser, after a rejected value, and
    with the option given twice on one command line -/
def d8Hist : List Op :=
  mkP 0 cU clsT "t" ++ [.parse 0 false (argvOf ["--tup", "4", "b", "2.5"]), .parse 0 false (argvOf ["--tup", "x", "b", "2.5"]),
    .parse 0 false (argvOf ["--tup", "4", "b", "2.5", "--tup", "5", "c", "2.5"]), .parse 0 false (argvOf ["--tup", "4", "b", "2.5"])]
/-- D5 (repaired by 7b430cf): `p0 = ArgumentParser(DASH)`, `p1 = ArgumentParser(UNDERSCORE)`, then
    `p0.parse_args(["--a-b","3"])` is accepted: p0 spells its options its own way -/
def d5Hist : List Op := mkP 0 cD clsA "a" ++ [.construct 1 cU false [], .parse 0 false (argvOf ["--a-b", "3"])]
/-- D6 (repaired by 1720e54): `add_config_path_arg=True`, two `parse_args([])` -/
def d6Hist : List Op := mkP 0 cU clsA "a" (cp := true) ++ [.parse 0 false [], .parse 0 false []]
/-- `print_help` before the first parse of a parser with a constructor `config_path=` file (repaired by e83a7f8:
    the file is applied before the arguments are generated): the later parse sees the file's defaults -/
def helpCtorHist : List Op := mkP 0 cU clsA "a" (fs := ["f0.json"]) ++ [.printHelp 0, .parse 0 false []]

/-- three parsers with three different spellings, interleaved; re-parses (valid, invalid, help) on set-up parsers; a
    subgroup parser whose first parse is rejected by the choice parser, then re-parsed twice with the same choice; a
    tuple parser parsed once; a `--config_path` parser parsed three times (no files); two parsers over the same
    dataclass with a custom `type=`; a constructor-file parser in the root-less layout parsed once -/
def demoHist : List Op :=
  mkP 0 cD clsA "a" ++ [.parse 0 false (argvOf ["--a-b", "3"])] ++
  mkP 1 cU clsS "s" ++ [.parse 1 false (argvOf ["--mod", "z"]), .parse 1 false (argvOf ["--mod", "y", "--yv", "5"]),
    .parse 0 false (argvOf ["--a-b", "4"]), .printHelp 0, .parse 1 true (argvOf ["--mod", "y", "--zzz"]),
    .parse 0 false (argvOf ["--a_b", "4"]), .parse 0 false (argvOf ["-h"]), .formatHelp 1] ++
  mkP 2 cU clsT "t" ++ [.parse 2 false (argvOf ["--tup", "4", "b", "2.5"]), .parse 2 false (argvOf ["--tup", "x", "b", "2.5"]),
    .parse 2 false (argvOf ["--tup", "5", "c", "2.5"]), .parse 0 false []] ++
  mkP 1 cU clsA "a" (cp := true) ++ [.parse 1 false (argvOf ["--a_b", "2"]), .parse 1 false [],
    .parse 1 false (argvOf ["--a_b=9"])] ++
  mkP 2 cU clsK "k" ++ [.parse 2 false (argvOf ["--tag", "12"])] ++
  mkP 1 cD clsK "k" ++ [.parse 1 false (argvOf ["--tag", "12"]), .parse 2 false (argvOf ["--tag", "abc"])] ++
  mkP 2 cW clsA "a" (fs := ["r0.json"]) ++ [.parse 2 false [], .parse 0 false (argvOf ["--a-b=9"])]

/-- constructor `config_path=` parsers beyond their first call: rooted file, and root-less file of a WITHOUT_ROOT
    parser over a class WITHOUT subgroups; valid, rejected and help calls in between; `ctorReloadSafe` holds throughout -/
def ctorReparseHist : List Op :=
  mkP 0 cU clsA "a" (fs := ["f0.json"]) ++ [.parse 0 false [], .parse 0 false (argvOf ["--a_b", "3"]),
    .parse 0 false (argvOf ["--a_b", "x"]), .printHelp 0, .parse 0 false []] ++
  mkP 1 cW clsA "a" (fs := ["r0.json"]) ++ [.printHelp 1, .parse 1 false [], .parse 0 true (argvOf ["--zz"]),
    .parse 1 false (argvOf ["--a_b=4"]), .parse 1 false []]
/-- an answer-only violation does not taint: `--mod y`, `--mod x` (wrong answer, excluded), `--mod y` again — the
    third call is `safe`, its parser never left the invariant, so `c08_partial` covers it -/
def d9ThenFineHist : List Op := d9Hist ++ [.parse 0 false (argvOf ["--mod", "y", "--yv", "4"])]

attribute [lit] clsA clsB clsT clsS clsK env0 env0Old clsSK mkP argvOf d9Hist d9HelpHist d10Hist d10LaterHist d10HelpHist lateAddHist d9ErrHist d9RejectedHist rootlessHist rootlessArgvHist d8Hist d5Hist d6Hist helpCtorHist demoHist ctorReparseHist d9ThenFineHist

/-- What is computed of each history above, one field per history: does every call agree, is every call `safe`, and
    (where an observed answer is on record) the last answer.  That a safe history agrees is `safeHist_agrees`, that a
    history which does not agree is not safe is `unsafe_of_disagree`. -/
structure Runs : Prop where
  d9 : allAgree env0 init d9Hist = false ∧
    (runHist env0 init d9Hist).getLast? =
      some (.ok [{ dest := "s".toList, cls := "S".toList, fields := [],
                   sub := some ("mod".toList, "Y".toList, [("yv".toList, .sc (.int 2))]) }]
                [("s.mod".toList, .sc (.str "x".toList))] none [] [])
  d9Err : allAgree env0 init d9ErrHist = false ∧
    (runHist env0 init d9ErrHist).getLast? = some (.exit 2 .type) ∧
    fresh env0 { cfg := cU, cfgPath := false, cfgFiles := [], regs := [{ dest := "s".toList, cls := clsS }] }
      false (argvOf ["--yv", "q", "--mod", "z"]) = .exit 2 .choice
  d9Help : allAgree env0 init d9HelpHist = false
  d9Rejected : allAgree env0 init d9RejectedHist = true ∧ safeHist env0 init d9RejectedHist = false
  d10 : allAgree env0 init d10Hist = false ∧
    (runHist env0 init d10Hist).getLast? =
      some (.ok [{ dest := "a".toList, cls := "A".toList, fields := [("a_b".toList, .sc (.int 7))], sub := none }]
                [] (some (.sc .none)) [] [])
  d10Later : allAgree env0 init d10LaterHist = false ∧
    (runHist env0 init d10LaterHist).getLast? =
      some (.ok [{ dest := "a".toList, cls := "A".toList, fields := [("a_b".toList, .sc (.int 1))], sub := none }]
                [] (some (.list [.path "f0.json".toList])) [] [])
  d10Help : allAgree env0 init d10HelpHist = false
  lateAdd : allAgree env0 init lateAddHist = false
  rootless : safeHist env0 init rootlessHist = true ∧
    (runHist env0 init rootlessHist).getLast? =
      some (.ok [{ dest := "s".toList, cls := "SK".toList, fields := [("k".toList, .sc (.int 5))],
                   sub := some ("mod".toList, "X".toList, [("xv".toList, .sc (.int 1))]) }]
                [("s.mod".toList, .sc (.str "x".toList))] none [] [])
  rootlessArgv : allAgree env0 init rootlessArgvHist = true ∧ safeHist env0 init rootlessArgvHist = false
  d8 : safeHist env0 init d8Hist = true ∧
    (runHist env0 init d8Hist).getLast? =
      some (.ok [{ dest := "t".toList, cls := "T".toList,
                   fields := [("tup".toList, .tuple [.int 4, .str "b".toList, .float "2.5".toList])], sub := none }]
                [] none [] [])
  d5 : safeHist env0 init d5Hist = true ∧
    (runHist env0 init d5Hist).getLast? =
      some (.ok [{ dest := "a".toList, cls := "A".toList, fields := [("a_b".toList, .sc (.int 3))], sub := none }]
                [] none [] []) ∧
    runG env0 init d5Hist = [cD, cD, cU, cD]
  d5Old : allAgree env0Old init d5Hist = false ∧ safeHist env0Old init d5Hist = true ∧
    (runHist env0Old init d5Hist).getLast? = some (.exit 2 .unrecognized)
  d6 : safeHist env0 init d6Hist = true ∧
    (runHist env0 init d6Hist).getLast? =
      some (.ok [{ dest := "a".toList, cls := "A".toList, fields := [("a_b".toList, .sc (.int 1))], sub := none }]
                [] (some (.sc .none)) [] [])
  helpCtor : safeHist env0 init helpCtorHist = true ∧
    (runHist env0 init helpCtorHist).getLast? =
      some (.ok [{ dest := "a".toList, cls := "A".toList, fields := [("a_b".toList, .sc (.int 7))], sub := none }]
                [] none [] [])
  ctorReparse : safeHist env0 init ctorReparseHist = true ∧
    (runHist env0 init ctorReparseHist).getLast? =
      some (.ok [{ dest := "a".toList, cls := "A".toList, fields := [("a_b".toList, .sc (.int 13))], sub := none }]
                [] none [] [])
  demo : safeHist env0 init demoHist = true ∧
    (runHist env0 init demoHist).getLast? =
      some (.ok [{ dest := "a".toList, cls := "A".toList, fields := [("a_b".toList, .sc (.int 9))], sub := none }]
                [] none [] [])
  d9ThenFine :
    (d9ThenFineHist.foldl (fun (st : State × (Nat → Bool)) op => ((step env0 st.1 op).1, taintStep env0 st.1 st.2 op))
      (init, fun _ => false)).2 0 = false

/-- The histories are run together because they are slow to check apart: a kernel evaluation first decodes the string
    constants inside the model's functions (`helpAct`, `cfgDest`, `cfgAct`), where the `lit` rewriting of the goal does
    not reach, which costs as much as a run, and the histories share most of their fresh parses. -/
theorem all_runs : Runs := by
  -- the conjuncts of `all` are fixed by the `exact`: one evaluation decides all fields
  suffices all : _ ∧ _ ∧ _ ∧ _ ∧ _ ∧ _ ∧ _ ∧ _ ∧ _ ∧ _ ∧ _ ∧ _ ∧ _ ∧ _ ∧ _ ∧ _ ∧ _ ∧ _ by
    obtain ⟨d9, d9Err, d9Help, d9Rejected, d10, d10Later, d10Help, lateAdd, rootless, rootlessArgv, d8, d5, d5Old, d6,
      helpCtor, ctorReparse, demo, d9ThenFine⟩ := all
    exact ⟨d9, d9Err, d9Help, d9Rejected, d10, d10Later, d10Help, lateAdd, rootless, rootlessArgv, d8, d5, d5Old, d6,
      helpCtor, ctorReparse, demo, d9ThenFine⟩
  decide_lit

/-! ### witnesses: the full statement is still false on the current code -/

theorem d9_witness : allAgree env0 init d9Hist = false := all_runs.d9.1
theorem d9_errkind_witness : allAgree env0 init d9ErrHist = false := all_runs.d9Err.1
theorem d9_help_witness : allAgree env0 init d9HelpHist = false := all_runs.d9Help
theorem d10_witness : allAgree env0 init d10Hist = false := all_runs.d10.1
theorem d10_later_witness : allAgree env0 init d10LaterHist = false := all_runs.d10Later.1
theorem d10_help_witness : allAgree env0 init d10HelpHist = false := all_runs.d10Help
theorem lateAdd_witness : allAgree env0 init lateAddHist = false := all_runs.lateAdd

/-- the model reproduces the observed wrong answers, not just "some difference" -/
example : (runHist env0 init d9Hist).getLast? =
    some (.ok [{ dest := "s".toList, cls := "S".toList, fields := [],
                 sub := some ("mod".toList, "Y".toList, [("yv".toList, .sc (.int 2))]) }]
              [("s.mod".toList, .sc (.str "x".toList))] none [] []) := all_runs.d9.2
example : (runHist env0 init d10Hist).getLast? =
    some (.ok [{ dest := "a".toList, cls := "A".toList, fields := [("a_b".toList, .sc (.int 7))], sub := none }]
              [] (some (.sc .none)) [] []) := all_runs.d10.2
example : (runHist env0 init d10LaterHist).getLast? =
    some (.ok [{ dest := "a".toList, cls := "A".toList, fields := [("a_b".toList, .sc (.int 1))], sub := none }]
              [] (some (.list [.path "f0.json".toList])) [] []) := all_runs.d10Later.2

example : (runHist env0 init d9ErrHist).getLast? = some (.exit 2 .type) := all_runs.d9Err.2.1
example : fresh env0 { cfg := cU, cfgPath := false, cfgFiles := [], regs := [{ dest := "s".toList, cls := clsS }] }
    false (argvOf ["--yv", "q", "--mod", "z"]) = .exit 2 .choice := all_runs.d9Err.2.2
example : allAgree env0 init d9RejectedHist = true ∧ safeHist env0 init d9RejectedHist = false :=
  all_runs.d9Rejected

/-- **the full statement does not hold for the current code** -/
theorem c08_full_false : ¬ FullStatement := by
  intro h
  have := h env0 d9Hist
  rw [d9_witness] at this
  cases this

/-- each witness history contains a call that `safe` excludes — the exclusions are where the failures are -/
example : safeHist env0 init d9Hist = false := unsafe_of_disagree rfl d9_witness
example : safeHist env0 init d9ErrHist = false := unsafe_of_disagree rfl d9_errkind_witness
example : safeHist env0 init d9HelpHist = false := unsafe_of_disagree rfl d9_help_witness
example : safeHist env0 init d10Hist = false := unsafe_of_disagree rfl d10_witness
example : safeHist env0 init d10LaterHist = false := unsafe_of_disagree rfl d10_later_witness
example : safeHist env0 init d10HelpHist = false := unsafe_of_disagree rfl d10_help_witness
example : safeHist env0 init lateAddHist = false := unsafe_of_disagree rfl lateAdd_witness

/-! ### regression examples: the histories of the repaired defects satisfy the statement now — where they are `safe`,
  for that reason -/

theorem d8_regression : allAgree env0 init d8Hist = true ∧ safeHist env0 init d8Hist = true :=
  safeHist_agrees rfl all_runs.d8.1
example : (runHist env0 init d8Hist).getLast? =
    some (.ok [{ dest := "t".toList, cls := "T".toList,
                 fields := [("tup".toList, .tuple [.int 4, .str "b".toList, .float "2.5".toList])], sub := none }] [] none [] []) :=
  all_runs.d8.2

theorem d5_regression : allAgree env0 init d5Hist = true ∧ safeHist env0 init d5Hist = true :=
  safeHist_agrees rfl all_runs.d5.1
example : (runHist env0 init d5Hist).getLast? =
    some (.ok [{ dest := "a".toList, cls := "A".toList, fields := [("a_b".toList, .sc (.int 3))], sub := none }] [] none [] []) :=
  all_runs.d5.2.1
/-- the class attributes follow the constructors and — since the repair — the set-up of a parser -/
example : runG env0 init d5Hist = [cD, cD, cU, cD] := all_runs.d5.2.2
/-- … and the SAME history on the tree before the repair violates the statement although every call is `safe`:
    `c08_partial` really needs `env.reassert`, the clause "keeps generating the option spelling it was configured
    with" is not true by construction of the model -/
theorem d5_old_witness : allAgree env0Old init d5Hist = false ∧ safeHist env0Old init d5Hist = true :=
  ⟨all_runs.d5Old.1, all_runs.d5Old.2.1⟩
example : (runHist env0Old init d5Hist).getLast? = some (.exit 2 .unrecognized) := all_runs.d5Old.2.2

theorem d6_regression : allAgree env0 init d6Hist = true ∧ safeHist env0 init d6Hist = true :=
  safeHist_agrees rfl all_runs.d6.1
example : (runHist env0 init d6Hist).getLast? =
    some (.ok [{ dest := "a".toList, cls := "A".toList, fields := [("a_b".toList, .sc (.int 1))], sub := none }]
              [] (some (.sc .none)) [] []) := all_runs.d6.2

theorem helpCtor_regression : allAgree env0 init helpCtorHist = true :=
  (safeHist_agrees rfl all_runs.helpCtor.1).1
example : (runHist env0 init helpCtorHist).getLast? =
    some (.ok [{ dest := "a".toList, cls := "A".toList, fields := [("a_b".toList, .sc (.int 7))], sub := none }] [] none [] []) :=
  all_runs.helpCtor.2

theorem rootless_regression : allAgree env0 init rootlessHist = true ∧ safeHist env0 init rootlessHist = true :=
  safeHist_agrees rfl all_runs.rootless.1
example : (runHist env0 init rootlessHist).getLast? =
    some (.ok [{ dest := "s".toList, cls := "SK".toList, fields := [("k".toList, .sc (.int 5))],
                 sub := some ("mod".toList, "X".toList, [("xv".toList, .sc (.int 1))]) }]
              [("s.mod".toList, .sc (.str "x".toList))] none [] []) := all_runs.rootless.2
/-- the same through `--config_path` on the command line: every call agrees now (the second call is still outside
    `safe` — a file given to a parser that is already set up, D10's exclusion — although harmless here: the same file) -/
theorem rootless_argv_regression :
    allAgree env0 init rootlessArgvHist = true ∧ safeHist env0 init rootlessArgvHist = false :=
  all_runs.rootlessArgv

/-! ### the hypotheses of `c08_partial_safeHist` are satisfiable by non-trivial histories -/

example : safeHist env0 init ctorReparseHist = true := all_runs.ctorReparse.1
example : allAgree env0 init ctorReparseHist = true := (safeHist_agrees rfl all_runs.ctorReparse.1).1
example : (runHist env0 init ctorReparseHist).getLast? =
    some (.ok [{ dest := "a".toList, cls := "A".toList, fields := [("a_b".toList, .sc (.int 13))], sub := none }] [] none [] []) :=
  all_runs.ctorReparse.2

example : safeHist env0 init demoHist = true := all_runs.demo.1
example : allAgree env0 init demoHist = true := (safeHist_agrees rfl all_runs.demo.1).1
example : (runHist env0 init demoHist).getLast? =
    some (.ok [{ dest := "a".toList, cls := "A".toList, fields := [("a_b".toList, .sc (.int 9))], sub := none }] [] none [] []) :=
  all_runs.demo.2

example : (d9ThenFineHist.foldl (fun (st : State × (Nat → Bool)) op => ((step env0 st.1 op).1, taintStep env0 st.1 st.2 op))
    (init, fun _ => false)).2 0 = false := all_runs.d9ThenFine

/-- the monitored form also speaks about histories that DO contain unsafe calls: here parser 0 is abused (D9) and
    the theorem still covers every call on parser 1 — and the later calls on parser 0 as well -/
example : Monitored env0 init (fun _ => false) (d9Hist ++ mkP 1 cD clsA "a" ++ [.parse 1 false (argvOf ["--a-b", "3"])]) :=
  c08_partial_init env0 rfl _


end SpVerif.C08

