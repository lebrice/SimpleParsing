/-
  C13 — serialization is pure, emits only primitives and honours per-field hooks.
  Theorems about `SpVerif.Model.Serial` (encoding.py:61-141, serializable.py:707-908, fields.py:111-120).
  Object identity (freshness / aliasing) is not part of this model: those clauses are checked on the real
  code by harness/props/c13.py (id()-based alias walk and mutation probes).
-/
import SpVerif.Model.Serial
import SpVerif.Lemmas.Serial
namespace SpVerif.C13
open SpVerif SpVerif.Serial

variable (henv : HEnv)

/-! ### the field loop of `to_dict` -/

/-- what `to_dict` stores for one included field (serializable.py:752-773) -/
def fieldEnc (m : FMeta) (v : Val) : Out Val :=
  match m.enc with
  | some h => henv h v
  | none =>
    match v with
    | .inst _ _ fs' => (toDictL henv fs').bind fun ps => .ok (.dict false ps)
    | v => match encode henv v with
      | .raise _ => .ok v
      | r => r

theorem toDictL_cons (n : Str) (m : FMeta) (v : Val) (fs : List (Str × FMeta × Val)) :
    toDictL henv ((n, m, v) :: fs) =
      if !m.toDict then toDictL henv fs
      else (fieldEnc henv m v).bind fun e => (toDictL henv fs).bind fun qs => .ok ((.str n, e) :: qs) := by
  -- `toDictL` reaches the fields of a nested instance through the value it is matching on, so the two sides only
  -- compute to the same term once the hook and the constructor of the value are known
  obtain ⟨td, enc, dec⟩ := m
  cases enc with
  | some h => rfl
  | none => cases v <;> rfl

/-- a field marked `to_dict=False` contributes nothing, whatever it holds -/
theorem c13_hidden_skipped (n : Str) (m : FMeta) (v : Val) (fs : List (Str × FMeta × Val)) (hm : m.toDict = false) :
    toDictL henv ((n, m, v) :: fs) = toDictL henv fs := by
  rw [toDictL_cons, hm]; rfl

/-- **a written field contributes its own entry and only that**: the entries of the other fields are `to_dict`'s own
    loop on the other fields — neither the hook nor the hooked value occurs in them -/
theorem c13_hook_local (n : Str) (m : FMeta) (v : Val) (fs : List (Str × FMeta × Val)) (ps : List (Val × Val))
    (hm : m.toDict = true) (h : toDictL henv ((n, m, v) :: fs) = .ok ps) :
    ∃ e qs, ps = (.str n, e) :: qs ∧ fieldEnc henv m v = .ok e ∧ toDictL henv fs = .ok qs := by
  rw [toDictL_cons, hm] at h
  obtain ⟨e, h1, h2⟩ := Out.bind_eq_ok h
  obtain ⟨qs, h3, h4⟩ := Out.bind_eq_ok h2
  cases h4
  exact ⟨e, qs, rfl, h1, h3⟩

/-- **exactly the fields not marked `to_dict=False`, in field order** — for every field list, every value and
    every hook environment -/
theorem c13_omit (fs : List (Str × FMeta × Val)) (ps : List (Val × Val)) (h : toDictL henv fs = .ok ps) :
    ps.map Prod.fst = (fs.filter fun f => f.2.1.toDict).map fun f => Val.str f.1 := by
  induction fs generalizing ps with
  | nil => cases h; rfl
  | cons f fs ih =>
    obtain ⟨n, m, v⟩ := f
    cases hm : m.toDict with
    | false =>
      rw [c13_hidden_skipped henv n m v fs hm] at h
      simp [List.filter, hm, ih ps h]
    | true =>
      obtain ⟨e, qs, rfl, _, hqs⟩ := c13_hook_local henv n m v fs ps hm h
      simp [List.filter, hm, ih qs hqs]

theorem fieldEnc_hook {m : FMeta} {h : Nat} (he : m.enc = some h) (v : Val) : fieldEnc henv m v = henv h v := by
  unfold fieldEnc
  rw [he]

/-- **a field's `encoding_fn` produces that field's entry** (the value is handed to the hook as it is) -/
theorem c13_encoding_hook (n : Str) (m : FMeta) (v : Val) (fs : List (Str × FMeta × Val)) (h : Nat)
    (hm : m.toDict = true) (he : m.enc = some h) :
    toDictL henv ((n, m, v) :: fs) =
      (henv h v).bind fun e => (toDictL henv fs).bind fun qs => .ok ((.str n, e) :: qs) := by
  rw [toDictL_cons, hm, fieldEnc_hook henv he]; rfl

/-- the hooked field may hold anything — in particular a dataclass instance (directly, or inside Optional / List /
    Dict): the hook wins over the recursive `to_dict` of the nested instance (serializable.py:752-756 precedes 760-763) -/
theorem c13_encoding_hook_on_instance (n : Str) (m : FMeta) (c : Str) (reg : Bool) (ifs : List (Str × FMeta × Val))
    (fs : List (Str × FMeta × Val)) (h : Nat) (hm : m.toDict = true) (he : m.enc = some h) :
    toDictL henv ((n, m, .inst c reg ifs) :: fs) =
      (henv h (.inst c reg ifs)).bind fun e => (toDictL henv fs).bind fun qs => .ok ((.str n, e) :: qs) :=
  c13_encoding_hook henv n m _ fs h hm he

theorem decodeFields_cons (d : List (Val × Val)) (n : Str) (m : FMeta) (dflt : Option Val) (t : FTy)
    (fs : List (Str × FMeta × Option Val × FTy)) (missing : Bool) :
    decodeFields henv d ((n, m, dflt, t) :: fs) missing =
      match lookupKey (.str n) d with
      | some raw =>
        (match m.dec with | some h => henv h raw | none => decode henv t raw).bind fun v =>
          (decodeFields henv d fs missing).bind fun rest => .ok ((n, m, v) :: rest)
      | none =>
        match dflt with
        | some dv => (decodeFields henv d fs missing).bind fun rest => .ok ((n, m, dv) :: rest)
        | none => (decodeFields henv d fs true).bind fun rest => .ok ((n, m, .none) :: rest) := rfl

/-- **a field's `decoding_fn` is what decodes it**: the annotation's own decoder is not consulted -/
theorem c13_decoding_hook (d : List (Val × Val)) (n : Str) (m : FMeta) (dflt : Option Val) (t : FTy)
    (fs : List (Str × FMeta × Option Val × FTy)) (missing : Bool) (raw : Val) (h : Nat)
    (hl : lookupKey (.str n) d = some raw) (hd : m.dec = some h) :
    decodeFields henv d ((n, m, dflt, t) :: fs) missing =
      (henv h raw).bind fun v => (decodeFields henv d fs missing).bind fun rest => .ok ((n, m, v) :: rest) := by
  rw [decodeFields_cons, hl, hd]

/-- … whatever the raw value is — in particular a raw `None` is handed to the field's `decoding_fn` like any other -/
theorem c13_decoding_hook_none (d : List (Val × Val)) (n : Str) (m : FMeta) (dflt : Option Val) (t : FTy)
    (fs : List (Str × FMeta × Option Val × FTy)) (missing : Bool) (h : Nat)
    (hl : lookupKey (.str n) d = some .none) (hd : m.dec = some h) :
    decodeFields henv d ((n, m, dflt, t) :: fs) missing =
      (henv h .none).bind fun v => (decodeFields henv d fs missing).bind fun rest => .ok ((n, m, v) :: rest) :=
  c13_decoding_hook henv d n m dflt t fs missing .none h hl hd

/-- a field whose key is absent (e.g. it was marked `to_dict=False`) comes from its default -/
theorem c13_absent_default (d : List (Val × Val)) (n : Str) (m : FMeta) (dv : Val) (t : FTy)
    (fs : List (Str × FMeta × Option Val × FTy)) (missing : Bool) (hl : lookupKey (.str n) d = none) :
    decodeFields henv d ((n, m, some dv, t) :: fs) missing =
      (decodeFields henv d fs missing).bind fun rest => .ok ((n, m, dv) :: rest) := by
  rw [decodeFields_cons, hl]

/-! ### "to that field only": entries of hook-free fields do not depend on the hook environment -/

mutual
/-- no field of any instance inside carries an `encoding_fn` -/
def hookFree : Val → Bool
  | .list xs => hookFreeL xs
  | .tuple xs => hookFreeL xs
  | .set xs => hookFreeL xs
  | .dict _ ps => hookFreeP ps
  | .inst _ _ fs => hookFreeF fs
  | _ => true
def hookFreeL : List Val → Bool
  | [] => true
  | x :: xs => hookFree x && hookFreeL xs
def hookFreeP : List (Val × Val) → Bool
  | [] => true
  | (k, v) :: ps => hookFree k && hookFree v && hookFreeP ps
def hookFreeF : List (Str × FMeta × Val) → Bool
  | [] => true
  | (_, m, v) :: fs => m.enc.isNone && hookFree v && hookFreeF fs
end

variable (henv' : HEnv)

theorem fieldEnc_congr {m : FMeta} (hme : m.enc = none) {v : Val} (he : encode henv v = encode henv' v) :
    fieldEnc henv m v = fieldEnc henv' m v := by
  unfold fieldEnc
  simp only [hme]
  split
  · exact he
  · rw [he]

mutual
theorem encode_env (v : Val) (h : hookFree v = true) : encode henv v = encode henv' v := by
  cases v with
  | list xs | tuple xs | set xs =>
    show (encodeL henv xs).bind _ = (encodeL henv' xs).bind _
    rw [encodeL_env xs h]
  | dict _ ps =>
    show (encodeP henv ps).bind _ = (encodeP henv' ps).bind _
    rw [encodeP_env ps h]
  | inst _ _ fs =>
    show (toDictL henv fs).bind _ = (toDictL henv' fs).bind _
    rw [toDictL_env fs h]
  | _ => rfl
theorem encodeL_env (xs : List Val) (h : hookFreeL xs = true) : encodeL henv xs = encodeL henv' xs := by
  cases xs with
  | nil => rfl
  | cons x xs =>
    obtain ⟨hx, hxs⟩ := Bool.and_eq_true_iff.mp h
    show (encode henv x).bind _ = (encode henv' x).bind _
    rw [encode_env x hx, encodeL_env xs hxs]
theorem encodeP_env (ps : List (Val × Val)) (h : hookFreeP ps = true) : encodeP henv ps = encodeP henv' ps := by
  cases ps with
  | nil => rfl
  | cons p ps =>
    obtain ⟨k, v⟩ := p
    obtain ⟨hkv, hps⟩ := Bool.and_eq_true_iff.mp h
    obtain ⟨hk, hv⟩ := Bool.and_eq_true_iff.mp hkv
    show (encode henv k).bind _ = (encode henv' k).bind _
    rw [encode_env k hk, encode_env v hv, encodeP_env ps hps]
theorem toDictL_env (fs : List (Str × FMeta × Val)) (h : hookFreeF fs = true) : toDictL henv fs = toDictL henv' fs := by
  cases fs with
  | nil => rfl
  | cons f fs =>
    obtain ⟨n, m, v⟩ := f
    obtain ⟨hmv, hfs⟩ := Bool.and_eq_true_iff.mp h
    obtain ⟨hm, hv⟩ := Bool.and_eq_true_iff.mp hmv
    rw [toDictL_cons, toDictL_cons, fieldEnc_congr henv henv' (Option.isNone_iff_eq_none.mp hm) (encode_env v hv),
      toDictL_env fs hfs]
end

theorem Out.bind_ok_right {α : Type} (x : Out α) : (x.bind fun a => Out.ok a) = x := by cases x <;> rfl

theorem Out.bind_assoc {α β γ : Type} (x : Out α) (f : α → Out β) (g : β → Out γ) :
    (x.bind f).bind g = x.bind fun a => (f a).bind g := by cases x <;> rfl

theorem toDictL_append (pre post : List (Str × FMeta × Val)) :
    toDictL henv (pre ++ post) =
      (toDictL henv pre).bind fun a => (toDictL henv post).bind fun b => .ok (a ++ b) := by
  induction pre with
  | nil => exact (Out.bind_ok_right _).symm
  | cons f pre ih =>
    obtain ⟨n, m, v⟩ := f
    rw [List.cons_append, toDictL_cons, toDictL_cons, ih]
    cases m.toDict
    · rfl
    · simp only [Bool.not_true, Bool.false_eq_true, ↓reduceIte, Out.bind_assoc, Out.ok_bind, List.cons_append]

theorem toDictL_append_ok {pre post : List (Str × FMeta × Val)} {ps : List (Val × Val)}
    (h : toDictL henv (pre ++ post) = .ok ps) :
    ∃ a b, toDictL henv pre = .ok a ∧ toDictL henv post = .ok b ∧ ps = a ++ b := by
  rw [toDictL_append] at h
  obtain ⟨a, ha, h⟩ := Out.bind_eq_ok h
  obtain ⟨b, hb, h⟩ := Out.bind_eq_ok h
  cases h
  exact ⟨a, b, ha, hb, rfl⟩

/-- **a field's `encoding_fn` touches that field's entry only.**  Take any class whose other fields carry no hook
    (at any depth) and one written field `n` with a hook; serialize the same instance under two hook environments
    (e.g. two different functions for that hook): both outputs have the same entries before and after `n` — only the
    entry of `n` may differ.  Any number of fields, any values. -/
theorem c13_hook_only_its_field (pre post : List (Str × FMeta × Val)) (n : Str) (m : FMeta) (v : Val)
    (ps ps' : List (Val × Val)) (hpre : hookFreeF pre = true) (hpost : hookFreeF post = true) (hm : m.toDict = true)
    (h1 : toDictL henv (pre ++ (n, m, v) :: post) = .ok ps) (h2 : toDictL henv' (pre ++ (n, m, v) :: post) = .ok ps') :
    ∃ a e e' b, ps = a ++ (.str n, e) :: b ∧ ps' = a ++ (.str n, e') :: b := by
  obtain ⟨a, r, ha, hr, rfl⟩ := toDictL_append_ok henv h1
  obtain ⟨a', r', ha', hr', rfl⟩ := toDictL_append_ok henv' h2
  obtain ⟨e, b, rfl, _, hb⟩ := c13_hook_local henv n m v post r hm hr
  obtain ⟨e', b', rfl, _, hb'⟩ := c13_hook_local henv' n m v post r' hm hr'
  -- the entries before and after `n` are those of hook-free fields: the same under both environments
  rw [toDictL_env henv henv' pre hpre, ha'] at ha
  rw [toDictL_env henv henv' post hpost, hb'] at hb
  cases ha
  cases hb
  exact ⟨a, e, e', b, rfl, rfl⟩

mutual
/-- no class reachable from the annotation has a field with a `decoding_fn` -/
def decHookFree : FTy → Bool
  | .list t => decHookFree t
  | .set t => decHookFree t
  | .vtuple t => decHookFree t
  | .tuple ts => decHookFreeL ts
  | .dict k v => decHookFree k && decHookFree v
  | .union alts => decHookFreeL alts
  | .dc _ _ fs => decHookFreeF fs
  | _ => true
def decHookFreeL : List FTy → Bool
  | [] => true
  | t :: ts => decHookFree t && decHookFreeL ts
def decHookFreeF : List (Str × FMeta × Option Val × FTy) → Bool
  | [] => true
  | (_, m, _, t) :: fs => m.dec.isNone && decHookFree t && decHookFreeF fs
end

theorem decodeU_cons (optional : Bool) (t : FTy) (ts : List FTy) (raw : Val) :
    decodeU henv optional (t :: ts) raw =
      if t.isNoneT then decodeU henv optional ts raw
      else match decodeOptional optional (decode henv t) raw with
        | .ok v => .ok v
        | .raise _ => decodeU henv optional ts raw
        | .unmodelled w => .unmodelled w := rfl

mutual
theorem decode_env (t : FTy) (h : decHookFree t = true) (raw : Val) : decode henv t raw = decode henv' t raw := by
  cases t with
  | list t => rw [decode_list, decode_list, funext (decode_env t h)]
  | set t => rw [decode_set, decode_set, funext (decode_env t h)]
  | vtuple t => rw [decode_vtuple, decode_vtuple, funext (decode_env t h)]
  | tuple ts => rw [decode_tuple, decode_tuple, funext (decodeT_env ts h)]
  | dict k v =>
    obtain ⟨hk, hv⟩ := Bool.and_eq_true_iff.mp h
    rw [decode_dict, decode_dict, funext (decode_env k hk), funext (decode_env v hv)]
  | union alts => rw [decode_union, decode_union, decodeU_env _ alts h]
  | dc c reg fs => rw [decode_dc, decode_dc, funext fun d => decodeFields_env d fs false h]
  | _ => rfl
theorem decodeT_env (ts : List FTy) (h : decHookFreeL ts = true) (xs : List Val) :
    decodeT henv ts xs = decodeT henv' ts xs := by
  cases ts with
  | nil => cases xs <;> rfl
  | cons t ts =>
    cases xs with
    | nil => rfl
    | cons x xs =>
      obtain ⟨ht, hts⟩ := Bool.and_eq_true_iff.mp h
      show (decode henv t x).bind _ = (decode henv' t x).bind _
      rw [decode_env t ht x, decodeT_env ts hts xs]
theorem decodeU_env (optional : Bool) (alts : List FTy) (h : decHookFreeL alts = true) (raw : Val) :
    decodeU henv optional alts raw = decodeU henv' optional alts raw := by
  cases alts with
  | nil => rfl
  | cons t ts =>
    obtain ⟨ht, hts⟩ := Bool.and_eq_true_iff.mp h
    rw [decodeU_cons, decodeU_cons, funext (decode_env t ht), decodeU_env optional ts hts raw]
theorem decodeFields_env (d : List (Val × Val)) (fs : List (Str × FMeta × Option Val × FTy)) (missing : Bool)
    (h : decHookFreeF fs = true) : decodeFields henv d fs missing = decodeFields henv' d fs missing := by
  cases fs with
  | nil => rfl
  | cons f fs =>
    obtain ⟨n, m, dflt, t⟩ := f
    obtain ⟨hmt, hfs⟩ := Bool.and_eq_true_iff.mp h
    obtain ⟨hm, ht⟩ := Bool.and_eq_true_iff.mp hmt
    simp only [decodeFields_cons, Option.isNone_iff_eq_none.mp hm, decode_env t ht, decodeFields_env d fs missing hfs,
      decodeFields_env d fs true hfs]
end

/-- **a `decoding_fn` touches its own field only**: decoding along an annotation that reaches no hooked field does not
    look at the hook environment -/
theorem c13_decoding_env_independent (t : FTy) (h : decHookFree t = true) (raw : Val) :
    decode henv t raw = decode henv' t raw := decode_env henv henv' t h raw

/-! ### primitives only -/

/-- keys whose encoding is a primitive leaf -/
def keyOk : Val → Bool
  | .none | .bool _ | .int _ | .float _ | .str _ | .path _ | .enum _ _ => true
  | _ => false

/-- what a field's `encoding_fn` returns is accepted when it is made of primitives (the hook's own business otherwise) -/
def hookPrim (h : Nat) (v : Val) : Bool :=
  match henv h v with
  | .ok e => isPrim e
  | _ => false

mutual
/-- **InGrammar** on values, with hooks (`primOkH henv`): dicts of any Mapping type (an OrderedDict too), dict keys are leaves
    (str/int/float/bool/None/Path/Enum); a WRITTEN field that carries an `encoding_fn` is accepted when the hook
    answers primitives on the value it is given (`hookPrim`); a field marked `to_dict=False` is accepted whatever it
    holds and whatever hook it carries (it is never looked at) -/
def primOkH : Val → Bool
  | .list xs => primOkHL xs
  | .tuple xs => primOkHL xs
  | .set xs => primOkHL xs
  | .dict _ ps => primOkHP ps
  | .inst _ _ fs => primOkHF fs
  | _ => true
def primOkHL : List Val → Bool
  | [] => true
  | x :: xs => primOkH x && primOkHL xs
def primOkHP : List (Val × Val) → Bool
  | [] => true
  | (k, v) :: ps => keyOk k && primOkH v && primOkHP ps
def primOkHF : List (Str × FMeta × Val) → Bool
  | [] => true
  | (_, m, v) :: fs =>
    (if m.toDict then (match m.enc with | some h => hookPrim henv h v | none => primOkH v) else true) && primOkHF fs
end

mutual
/-- the hook-free grammar: as `primOkH`, but no written field carries an `encoding_fn` -/
def primOk : Val → Bool
  | .list xs => primOkL xs
  | .tuple xs => primOkL xs
  | .set xs => primOkL xs
  | .dict _ ps => primOkP ps
  | .inst _ _ fs => primOkF fs
  | _ => true
def primOkL : List Val → Bool
  | [] => true
  | x :: xs => primOk x && primOkL xs
def primOkP : List (Val × Val) → Bool
  | [] => true
  | (k, v) :: ps => keyOk k && primOk v && primOkP ps
def primOkF : List (Str × FMeta × Val) → Bool
  | [] => true
  | (_, m, v) :: fs => (if m.toDict then m.enc.isNone && primOk v else true) && primOkF fs
end

mutual
theorem primOkH_of_primOk (v : Val) (h : primOk v = true) : primOkH henv v = true := by
  cases v with
  | list xs | tuple xs | set xs => exact primOkHL_of xs h
  | dict _ ps => exact primOkHP_of ps h
  | inst _ _ fs => exact primOkHF_of fs h
  | _ => rfl
theorem primOkHL_of (xs : List Val) (h : primOkL xs = true) : primOkHL henv xs = true := by
  cases xs with
  | nil => rfl
  | cons x xs =>
    obtain ⟨hx, hxs⟩ := Bool.and_eq_true_iff.mp h
    exact Bool.and_eq_true_iff.mpr ⟨primOkH_of_primOk x hx, primOkHL_of xs hxs⟩
theorem primOkHP_of (ps : List (Val × Val)) (h : primOkP ps = true) : primOkHP henv ps = true := by
  cases ps with
  | nil => rfl
  | cons p ps =>
    obtain ⟨k, v⟩ := p
    obtain ⟨hkv, hps⟩ := Bool.and_eq_true_iff.mp h
    obtain ⟨hk, hv⟩ := Bool.and_eq_true_iff.mp hkv
    exact Bool.and_eq_true_iff.mpr ⟨Bool.and_eq_true_iff.mpr ⟨hk, primOkH_of_primOk v hv⟩, primOkHP_of ps hps⟩
theorem primOkHF_of (fs : List (Str × FMeta × Val)) (h : primOkF fs = true) : primOkHF henv fs = true := by
  cases fs with
  | nil => rfl
  | cons f fs =>
    obtain ⟨n, m, v⟩ := f
    obtain ⟨hv, hfs⟩ := Bool.and_eq_true_iff.mp h
    refine Bool.and_eq_true_iff.mpr ⟨?_, primOkHF_of fs hfs⟩
    -- a written field of the hook-free grammar has no hook: `primOkHF` asks `primOkH` of its value
    cases hm : m.toDict with
    | false => rfl
    | true =>
      simp only [hm, ↓reduceIte, Bool.and_eq_true, Option.isNone_iff_eq_none] at hv
      rw [hv.1]
      exact primOkH_of_primOk v hv.2
end

theorem key_prim (k : Val) (h : keyOk k = true) :
    ∃ k', encode henv k = .ok k' ∧ isPrimLeaf k' = true ∧ hashable k' = true := by
  cases k with
  | list _ | tuple _ | set _ | dict _ _ | inst _ _ _ => cases h
  | _ => exact ⟨_, rfl, rfl, rfl⟩

theorem isPrimP_cons {k v : Val} {ps : List (Val × Val)} :
    isPrimP ((k, v) :: ps) = true ↔ isPrimLeaf k = true ∧ isPrim v = true ∧ isPrimP ps = true := by
  show (isPrimLeaf k && isPrim v && isPrimP ps) = true ↔ _
  rw [Bool.and_eq_true, Bool.and_eq_true, and_assoc]

theorem isPrimP_insert (k v : Val) (acc : List (Val × Val)) (hk : isPrimLeaf k = true) (hv : isPrim v = true)
    (ha : isPrimP acc = true) : isPrimP (dictInsert k v acc) = true := by
  induction acc with
  | nil => exact isPrimP_cons.mpr ⟨hk, hv, rfl⟩
  | cons p ps ih =>
    obtain ⟨k', v'⟩ := p
    obtain ⟨hk', hv', hps⟩ := isPrimP_cons.mp ha
    show isPrimP (if pyEq k' k then (k', v) :: ps else (k', v') :: dictInsert k v ps) = true
    split
    · exact isPrimP_cons.mpr ⟨hk', hv, hps⟩
    · exact isPrimP_cons.mpr ⟨hk', hv', ih hps⟩

theorem fold_prim (qs acc : List (Val × Val)) (ha : isPrimP acc = true) (hq : isPrimP qs = true)
    (hh : ∀ q ∈ qs, hashable q.1 = true) :
    ∃ acc', encDictFold (.dict acc) qs = .ok (.dict acc') ∧ isPrimP acc' = true := by
  induction qs generalizing acc with
  | nil => exact ⟨acc, rfl, ha⟩
  | cons q qs ih =>
    obtain ⟨k, v⟩ := q
    obtain ⟨hk, hv, hqs⟩ := isPrimP_cons.mp hq
    -- a hashable key keeps the accumulator a dict
    have step : encDictFold (.dict acc) ((k, v) :: qs) = encDictFold (.dict (dictInsert k v acc)) qs := by
      show (if hashable k then Out.ok (DAcc.dict (dictInsert k v acc)) else _).bind _ = _
      rw [hh (k, v) List.mem_cons_self]
      rfl
    rw [step]
    exact ih _ (isPrimP_insert k v acc hk hv ha) hqs fun q hq' => hh q (List.mem_cons_of_mem _ hq')

theorem Out.bind_ok_sat {α β : Type} {x : Out α} {f : α → Out β} {P : α → Prop} {Q : β → Prop}
    (hx : ∃ a, x = .ok a ∧ P a) (hf : ∀ a, P a → ∃ b, f a = .ok b ∧ Q b) : ∃ b, x.bind f = .ok b ∧ Q b := by
  obtain ⟨a, rfl, ha⟩ := hx
  exact hf a ha

theorem hookPrim_iff (h : Nat) (v : Val) : hookPrim henv h v = true ↔ ∃ e, henv h v = .ok e ∧ isPrim e = true := by
  unfold hookPrim
  cases henv h v <;> simp

theorem fieldEnc_of_encode_ok {m : FMeta} (hme : m.enc = none) {v e : Val} (he : encode henv v = .ok e) :
    fieldEnc henv m v = .ok e := by
  unfold fieldEnc
  simp only [hme]
  split
  · exact he
  · rw [he]

mutual
theorem prim_enc (v : Val) (h : primOkH henv v = true) : ∃ e, encode henv v = .ok e ∧ isPrim e = true := by
  -- on each constructor `encode` unfolds to a chain of `bind`s, and every link succeeds with primitives
  cases v with
  | list xs | tuple xs | set xs =>
    exact Out.bind_ok_sat (prim_encL xs h) fun es hes => ⟨.list es, rfl, hes⟩
  | dict ordered ps =>
    refine Out.bind_ok_sat (prim_encP ps h) fun qs hqs => ?_
    obtain ⟨acc, hacc, hp⟩ := fold_prim qs [] rfl hqs.1 hqs.2
    rw [hacc]
    exact ⟨.dict false acc, rfl, hp⟩
  | inst _ reg fs =>
    exact Out.bind_ok_sat (prim_encF fs h) fun qs hqs => ⟨.dict false qs, rfl, hqs⟩
  | _ => exact ⟨_, rfl, rfl⟩
theorem prim_encL (xs : List Val) (h : primOkHL henv xs = true) : ∃ es, encodeL henv xs = .ok es ∧ isPrimL es = true := by
  cases xs with
  | nil => exact ⟨[], rfl, rfl⟩
  | cons x xs =>
    obtain ⟨hx, hxs⟩ := Bool.and_eq_true_iff.mp h
    exact Out.bind_ok_sat (prim_enc x hx) fun e he => Out.bind_ok_sat (prim_encL xs hxs) fun es hes =>
      ⟨e :: es, rfl, Bool.and_eq_true_iff.mpr ⟨he, hes⟩⟩
theorem prim_encP (ps : List (Val × Val)) (h : primOkHP henv ps = true) :
    ∃ qs, encodeP henv ps = .ok qs ∧ isPrimP qs = true ∧ ∀ q ∈ qs, hashable q.1 = true := by
  cases ps with
  | nil => exact ⟨[], rfl, rfl, fun _ hq => nomatch hq⟩
  | cons p ps =>
    obtain ⟨k, v⟩ := p
    obtain ⟨hkv, hps⟩ := Bool.and_eq_true_iff.mp h
    obtain ⟨hk, hv⟩ := Bool.and_eq_true_iff.mp hkv
    refine Out.bind_ok_sat (key_prim henv k hk) fun k' hk => Out.bind_ok_sat (prim_enc v hv) fun e he =>
      Out.bind_ok_sat (prim_encP ps hps) fun qs hqs =>
        ⟨(k', e) :: qs, rfl, isPrimP_cons.mpr ⟨hk.1, he, hqs.1⟩, ?_⟩
    intro q hq
    rcases List.mem_cons.mp hq with rfl | hq
    · exact hk.2
    · exact hqs.2 q hq
theorem prim_encF (fs : List (Str × FMeta × Val)) (h : primOkHF henv fs = true) :
    ∃ qs, toDictL henv fs = .ok qs ∧ isPrimP qs = true := by
  cases fs with
  | nil => exact ⟨[], rfl, rfl⟩
  | cons f fs =>
    obtain ⟨n, m, v⟩ := f
    obtain ⟨hv, hfs⟩ := Bool.and_eq_true_iff.mp h
    have hfs := prim_encF fs hfs
    rw [toDictL_cons]
    cases hm : m.toDict with
    | false => exact hfs
    | true =>
      simp only [hm, ↓reduceIte] at hv
      -- what is written for this field: the hook's answer, or `encode` of the value
      have hfe : ∃ e, fieldEnc henv m v = .ok e ∧ isPrim e = true := by
        cases hme : m.enc with
        | some hk =>
          rw [hme] at hv
          rw [fieldEnc_hook henv hme]
          exact (hookPrim_iff henv hk v).mp hv
        | none =>
          rw [hme] at hv
          obtain ⟨e, he, hp⟩ := prim_enc v hv
          exact ⟨e, fieldEnc_of_encode_ok henv hme he, hp⟩
      exact Out.bind_ok_sat hfe fun e he => Out.bind_ok_sat hfs fun qs hqs =>
        ⟨(.str n, e) :: qs, rfl, isPrimP_cons.mpr ⟨rfl, he, hqs⟩⟩
end

/-- `encode` of an instance is `to_dict` of it, Serializable or not (so hooks are honoured inside containers) -/
theorem c13_encode_is_to_dict (c : Str) (reg : Bool) (fs : List (Str × FMeta × Val)) :
    encode henv (.inst c reg fs) = toDict henv (.inst c reg fs) := rfl

/-- **C13 primitives-only, with hooks**: `to_dict(x)` of every instance of the grammar (any nesting depth;
    Serializable or plain at every level; any subset of fields hidden; any subset of written fields given an
    `encoding_fn` whose answer is made of primitives) succeeds and is made only of dict / list / str / int / float /
    bool / None — no tuple, set, Path, Enum or OrderedDict survives anywhere inside. -/
theorem c13_prim_hooks (x : Val) (c : Str) (reg : Bool) (fs : List (Str × FMeta × Val)) (hx : x = .inst c reg fs)
    (h : primOkH henv x = true) : ∃ d, toDict henv x = .ok d ∧ isPrim d = true := by
  subst hx
  rw [← c13_encode_is_to_dict]
  exact prim_enc henv _ h

/-- the hook-free corollary, for every hook environment -/
theorem c13_prim (x : Val) (c : Str) (reg : Bool) (fs : List (Str × FMeta × Val)) (hx : x = .inst c reg fs)
    (h : primOk x = true) : ∃ d, toDict henv x = .ok d ∧ isPrim d = true :=
  c13_prim_hooks henv x c reg fs hx (primOkH_of_primOk henv x h)

/-- **omits exactly the marked fields — total form**: on the grammar (with hooks) `to_dict`'s loop succeeds and its keys
    are the fields not marked `to_dict=False`, in field order -/
theorem c13_omit_total (fs : List (Str × FMeta × Val)) (h : primOkHF henv fs = true) :
    ∃ ps, toDictL henv fs = .ok ps ∧
      ps.map Prod.fst = (fs.filter fun f => f.2.1.toDict).map fun f => Val.str f.1 := by
  obtain ⟨ps, h1, _⟩ := prim_encF henv fs h
  exact ⟨ps, h1, c13_omit henv fs ps h1⟩

/-! ### "so json.dumps and yaml.safe_dump accept it unaided" -/

theorem yaml_accepts (d : Val) (h : isPrim d = true) : yamlTr d = .ok d := by rw [yamlTr, if_pos h]

theorem Out.bind_isOk {α β : Type} {x : Out α} {f : α → Out β}
    (hx : ∃ a, x = .ok a) (hf : ∀ a, ∃ b, f a = .ok b) : ∃ b, x.bind f = .ok b := by
  obtain ⟨a, rfl⟩ := hx
  exact hf a

theorem jsonKey_leaf (k : Val) (h : isPrimLeaf k = true) : ∃ s, jsonKey k = .ok s := by
  cases k with
  | none | bool _ | int _ | float _ | str _ => exact ⟨_, rfl⟩
  | _ => cases h

mutual
theorem json_accepts (d : Val) (h : isPrim d = true) : ∃ j, jsonTr d = .ok j := by
  cases d with
  | none | bool _ | int _ | float _ | str _ => exact ⟨_, rfl⟩
  | list xs => exact Out.bind_isOk (json_acceptsL xs h) fun _ => ⟨_, rfl⟩
  | dict o ps => exact Out.bind_isOk (json_acceptsP ps (Bool.and_eq_true_iff.mp h).2) fun _ => ⟨_, rfl⟩
  | _ => cases h
theorem json_acceptsL (xs : List Val) (h : isPrimL xs = true) : ∃ ys, jsonTrL xs = .ok ys := by
  cases xs with
  | nil => exact ⟨[], rfl⟩
  | cons x xs =>
    obtain ⟨hx, hxs⟩ := Bool.and_eq_true_iff.mp h
    exact Out.bind_isOk (json_accepts x hx) fun _ => Out.bind_isOk (json_acceptsL xs hxs) fun _ => ⟨_, rfl⟩
theorem json_acceptsP (ps : List (Val × Val)) (h : isPrimP ps = true) : ∃ qs, jsonTrP ps = .ok qs := by
  cases ps with
  | nil => exact ⟨[], rfl⟩
  | cons p ps =>
    obtain ⟨k, v⟩ := p
    obtain ⟨hk, hv, hps⟩ := isPrimP_cons.mp h
    exact Out.bind_isOk (jsonKey_leaf k hk) fun _ => Out.bind_isOk (json_accepts v hv) fun _ =>
      Out.bind_isOk (json_acceptsP ps hps) fun _ => ⟨_, rfl⟩
end

/-- **writers accept**: on the grammar (with hooks) the output of `to_dict` is taken by `yaml.safe_dump` /
    `yaml.dump`+`safe_load` unchanged and by `json.dumps` (model: `yamlTr`, `jsonTr`) -/
theorem c13_writers_accept (x : Val) (c : Str) (reg : Bool) (fs : List (Str × FMeta × Val)) (hx : x = .inst c reg fs)
    (h : primOkH henv x = true) :
    ∃ d, toDict henv x = .ok d ∧ yamlTr d = .ok d ∧ ∃ j, jsonTr d = .ok j := by
  obtain ⟨d, h1, h2⟩ := c13_prim_hooks henv x c reg fs hx h
  exact ⟨d, h1, yaml_accepts d h2, json_accepts d h2⟩

/-- the statement for every Python value (no grammar restriction) -/
def PrimFullStatement : Prop :=
  ∀ (henv : HEnv) (x d : Val), toDict henv x = .ok d → isPrim d = true

def h0 : HEnv := fun _ v => .ok v

/-- open finding: a dict with tuple keys is emitted as a list of `(key, value)` *tuples* -/
theorem c13_tuple_key_witness :
    toDict h0 (.inst ['K'] true [(['d'], FMeta.plain, .dict false [(.tuple [.int 1, .int 2], .str ['a'])])]) =
      .ok (.dict false [(.str ['d'], .list [.tuple [.list [.int 1, .int 2], .str ['a']]])]) := by rfl

/-- repaired by 36b622d (was the open finding C13-ordereddict-survives): an OrderedDict held by a Dict field, or sitting
    inside a list, is written as a plain dict — the output is made of exact primitives -/
def exOdict : Val :=
  .inst ['K'] true [(['d'], FMeta.plain, .dict true [(.str ['a'], .int 1)]),
                    (['l'], FMeta.plain, .list [.dict true [(.int 1, .str ['x'])]])]
example : toDict h0 exOdict =
    .ok (.dict false [(.str ['d'], .dict false [(.str ['a'], .int 1)]),
                      (.str ['l'], .list [.dict false [(.int 1, .str ['x'])]])]) := by rfl
example : primOk exOdict = true := by decide +kernel
example : ∃ d, toDict h0 exOdict = .ok d ∧ yamlTr d = .ok d ∧ ∃ j, jsonTr d = .ok j :=
  c13_writers_accept h0 exOdict _ _ _ rfl (by rfl)

theorem c13_prim_full_witness : ¬ PrimFullStatement := by
  intro h
  -- `isPrim` of the output in `c13_tuple_key_witness` evaluates to `false`
  cases h h0 _ _ c13_tuple_key_witness

/-- regression (repaired by b7617dd): a non-Serializable dataclass inside a list honours `to_dict=False` — the
    hidden field `h` is omitted, exactly as when the instance is held directly by a field -/
example :
    toDict h0 (.inst ['Q'] true [(['l'], FMeta.plain,
        .list [.inst ['P'] false [(['a'], FMeta.plain, .int 1), (['h'], { toDict := false, enc := none, dec := none }, .int 2)]])]) =
      .ok (.dict false [(.str ['l'], .list [.dict false [(.str ['a'], .int 1)]])]) := by rfl
example :
    toDict h0 (.inst ['Q'] true [(['p'], FMeta.plain,
        .inst ['P'] false [(['a'], FMeta.plain, .int 1), (['h'], { toDict := false, enc := none, dec := none }, .int 2)])]) =
      .ok (.dict false [(.str ['p'], .dict false [(.str ['a'], .int 1)])]) := by rfl

/-! ### functionality -/

/-- D15: two enumerations of the same set — equal as Python sets — give different lists -/
theorem c13_set_order_witness :
    encode h0 (.set [.int 0, .int 8]) = .ok (.list [.int 0, .int 8]) ∧
    encode h0 (.set [.int 8, .int 0]) = .ok (.list [.int 8, .int 0]) ∧
    (Val.list [.int 0, .int 8] ≠ Val.list [.int 8, .int 0]) := by
  refine ⟨rfl, rfl, ?_⟩
  intro h
  cases h

/-- a constant hook on a field that holds an instance: the hook's answer is written, not the nested dict -/
example :
    toDict (fun _ _ => .ok (.str ['H'])) (.inst ['Q'] true [(['p'], { toDict := true, enc := some 12, dec := none },
        .inst ['P'] true [(['a'], FMeta.plain, .int 1)]), (['z'], FMeta.plain, .int 2)]) =
      .ok (.dict false [(.str ['p'], .str ['H']), (.str ['z'], .int 2)]) := by rfl

/-- an Optional[int] field whose `decoding_fn` answers 7: a raw None is given to the function, the result is 7, not None -/
example :
    decode (fun _ _ => .ok (.int 7)) (.dc ['K'] true [(['o'], { toDict := true, enc := none, dec := some 22 }, none, .union [.int, .noneT])])
      (.dict false [(.str ['o'], .none)]) =
      .ok (.inst ['K'] true [(['o'], { toDict := true, enc := none, dec := some 22 }, .int 7)]) := by rfl

/-! non-vacuity of `primOkH`: a written field with the constant hook 12 on an instance value, a written field whose
    hook answers None (hook 14), a hidden field carrying a hook that would answer a non-primitive -/
def exHooks : HEnv
  | 12, _ => .ok (.str ['H'])
  | 14, _ => .ok .none
  | _, v => .ok (.tuple [v])       -- answers a non-primitive

def exHooked : Val :=
  .inst ['K'] false
    [(['a'], { toDict := true, enc := some 12, dec := none }, .inst ['P'] true [(['z'], FMeta.plain, .path ['p'])]),
     (['b'], { toDict := true, enc := some 14, dec := none }, .set [.int 1]),
     (['c'], { toDict := false, enc := some 99, dec := none }, .tuple [.int 1]),
     (['d'], FMeta.plain, .dict false [(.enum ['C'] ['R'], .tuple [.path ['q']])])]

example : primOkH exHooks exHooked = true := by decide +kernel
example : primOk exHooked = false := by decide +kernel
example : toDict exHooks exHooked =
    .ok (.dict false [(.str ['a'], .str ['H']), (.str ['b'], .none), (.str ['d'], .dict false [(.str ['R'], .list [.str ['q']])])]) := by rfl
example : hookFreeF [(['x'], FMeta.plain, .list [.inst ['P'] true [(['z'], FMeta.plain, .int 1)]])] = true := by decide +kernel
example : decHookFree (.dc ['K'] true [(['o'], FMeta.plain, none, .union [.list .int, .noneT])]) = true := by decide +kernel

/-! non-vacuity -/
example : primOk (.inst ['K'] false [(['a'], FMeta.plain, .tuple [.set [.path ['p']], .enum ['C'] ['R']]),
    (['b'], { toDict := false, enc := none, dec := none }, .dict false [(.int 3, .inst ['N'] true [(['z'], FMeta.plain, .none)])])]) = true := by
  decide +kernel
example : toDictL h0 [(['a'], FMeta.plain, .int 1), (['b'], { toDict := false, enc := none, dec := none }, .int 2)] =
    .ok [(.str ['a'], .int 1)] := by rfl

end SpVerif.C13
