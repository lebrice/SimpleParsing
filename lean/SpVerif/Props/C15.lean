/-
  C15 — a file written by save() reproduces the instance when used as a config file.

  `c15_loop` : for every class tree `spec` and every instance `x` that conforms to it (every leaf in the
  command-line grammar and of its declared type) and is `fileSafe`, `parse(config = save x) = x`, for both
  front ends (`parse()` with a root-less file, `ArgumentParser` with a dest-keyed file).

  The full statement (without `fileSafe`) does not hold for the code as it is: `c15_full_witness_items`,
  `c15_full_witness_none`, `c15_full_witness_class_none`, `c15_full_witness_literal`, `c15_full_witness_union` refute it
  on the five open findings.  Two decidable predicates carry every exclusion: `fileSafe` (defects of the code; the
  harness asserts on real loops, op `cl.filesafe`, that it is true exactly when the real result equals `x`) and `inModel`
  (limits of the model: Any, Union items, Optional[Literal], Enum-valued Literals, paths to normalise).  `Conforms` is
  `inModel` + the typing `HasType` + the shape; `c15_loop_syntactic` replaces the one semantic clause of `fileSafe`
  (`quietNone`) by the syntactic `defaultsQuiet`; `c15_loop_decidable` takes all hypotheses in executable form.
  Not proved here: the four file formats and the two routes (`config_path=` / `--config_path`) are exercised on real
  runs only (sampled), the model has one `set_defaults` entry point.
-/
import SpVerif.Model.ConfigLoop
import SpVerif.Lemmas.Fields
import SpVerif.Lemmas.Lit
namespace SpVerif.C15
open SpVerif SpVerif.ConfigLoop

/-! The decidable predicates (`InCliGrammar`, `inModel`, `HasType`, `leafSafe`, `fileSafe`, `conformsB`, …) live in
    `Model/ConfigLoop.lean` so that the driver can evaluate them (op `cl.filesafe`). -/

/-! ### one leaf: `get_arg_options` → empty-argv argparse → `postprocess`

  `dflt` is the field's *definition* default and is arbitrary in every lemma — also `None` for a non-Optional annotation
  (`a: int = None`), where `get_arg_options` takes the Optional branch (`argOptionsEff`). -/

/-- what `get_arg_options` makes of the annotation `t` and the default value `dv`, as far as an empty command line can
    tell: the `default=` and, for scalars, the `type=`.  A non-Optional Enum field is the one irregular row: the
    member is replaced by its name, parsed as `str` and looked up again by `postprocess`. -/
def ActionOf (t : FTy) (dv : Val) (ao : ArgOpts) : Prop :=
  match t.inner with
  | .sc i => ao.conv = convOfItem i ∧ ao.default = dv ∨
      t.optional = false ∧ ∃ c ms, i = .base (.enum c ms) ∧ ao.conv = .base .str ∧
        ao.default = enumByName dv
  | .literal _ => ao.conv = .base .str ∧ ao.default = dv
  | _ => ao.default = dv

theorem argOptions_spec (f : FieldSpec) (hg : InCliGrammar f.ty = true) :
    ∃ ao, argOptions f = some ao ∧ ActionOf f.ty (defaultVal f.default) ao := by
  obtain ⟨name, ⟨inner, opt⟩, dflt, al⟩ := f
  cases inner with
  | vtuple i => exact ⟨_, argOptions_of_shape rfl, rfl⟩
  | list i =>
    obtain ⟨c, hc⟩ := Option.isSome_iff_exists.mp (Bool.and_eq_true_iff.mp hg).2
    exact ⟨_, argOptions_of_shape (congrArg (Option.map _) hc), rfl⟩
  | tuple items =>
    obtain ⟨c, hc⟩ := Option.isSome_iff_exists.mp (Bool.and_eq_true_iff.mp hg).2
    exact ⟨_, argOptions_of_shape (congrArg (Option.map _) hc), rfl⟩
  | literal vals =>
    simp only [InCliGrammar, Bool.and_eq_true, Bool.not_eq_true'] at hg
    obtain ⟨names, hn⟩ := Option.isSome_iff_exists.mp hg.2
    cases hg.1.1
    exact ⟨_, argOptions_of_shape (congrArg (Option.map _) hn), rfl, rfl⟩
  | sc i =>
    by_cases hsoft : softField ⟨name, ⟨.sc i, opt⟩, dflt, al⟩ = true
    · exact ⟨_, argOptions_of_shape ((argShape_sc rfl).trans (if_pos hsoft)), .inl ⟨rfl, argDefault_soft hsoft⟩⟩
    · have hopt : opt = false := by cases opt <;> first | rfl | exact absurd rfl hsoft
      subst hopt
      have hs := (argShape_sc rfl).trans (if_neg hsoft)
      cases i with
      | union a => exact ⟨_, argOptions_of_shape hs, .inl ⟨rfl, rfl⟩⟩
      | base b =>
        cases b
        case enum c ms => exact ⟨_, argOptions_of_shape hs, .inr ⟨rfl, c, ms, rfl, rfl, rfl⟩⟩
        all_goals exact ⟨_, argOptions_of_shape hs, .inl ⟨rfl, rfl⟩⟩

theorem argOptionsEff_spec (f : FieldSpec) (eff : DefaultV) (hg : InCliGrammar f.ty = true) :
    ∃ ao, argOptionsEff f eff = some ao ∧
      (ao.required = true → f.ty.optional = false ∧ defaultVal eff = .sc .none) ∧ ActionOf f.ty (defaultVal eff) ao := by
  obtain ⟨name, ⟨inner, opt⟩, dflt, al⟩ := f
  -- in each of its branches `argOptionsEff` is `get_arg_options` of the field with an annotation `⟨inner, o⟩`, a default `d`
  obtain ⟨o, d, he, hg', ho, hv⟩ : ∃ o d, argOptionsEff ⟨name, ⟨inner, opt⟩, dflt, al⟩ eff = argOptions ⟨name, ⟨inner, o⟩, d, al⟩ ∧
      InCliGrammar ⟨inner, o⟩ = true ∧ (o = false → opt = false) ∧ defaultVal d = defaultVal eff := by
    unfold argOptionsEff
    dsimp only
    by_cases hsame : (opt || decide (dflt = .value (.sc .none)) == decide (eff = .value (.sc .none))) = true
    · exact ⟨opt, eff, if_pos hsame, hg, id, rfl⟩
    · rw [if_neg hsame]
      by_cases hdef : decide (dflt = .value (.sc .none)) = true
      · rw [if_pos hdef]
        cases inner with
        | literal vals => exact ⟨opt, eff, rfl, hg, id, rfl⟩
        | _ => exact ⟨true, eff, rfl, hg, nofun, rfl⟩
      · -- the definition default is not None, so the effective one is
        have heff : eff = .value (.sc .none) := (by simpa [hdef] using hsame : _ ∧ _).2
        exact ⟨opt, .missing, if_neg hdef, hg, id, heff ▸ rfl⟩
  obtain ⟨ao, ha, hact⟩ := argOptions_spec ⟨name, ⟨inner, o⟩, d, al⟩ hg'
  refine ⟨ao, he.trans ha, fun h => ?_, ?_⟩
  · obtain ⟨hd, ho'⟩ := argOptions_required ha h
    exact ⟨ho ho', by rw [← hv, show d = .missing from hd]; rfl⟩
  · rw [← hv]
    cases inner with
    | sc i => exact hact.imp_right fun h => ⟨ho h.1, h.2⟩
    | _ => exact hact

theorem postprocessC_typed {f : FieldSpec} {v : Val} (ht : hasNTy f.ty.inner v = true) (hl : literalSafe f.ty v = true) :
    postprocessC f v = .ok v := by
  obtain ⟨name, ⟨inner, opt⟩, dflt, al⟩ := f
  cases v with
  | sc s =>
    cases inner with
    | sc i =>
      cases opt
      · cases i with
        | union a => rfl
        | base b =>
          cases b with
          -- an Enum or Path annotation looks at a string only, and has no string values
          | enum c ms | path => cases s <;> first | rfl | exact Bool.noConfusion ht
          | _ => rfl
      · rfl
    | literal vals =>
      cases opt
      · cases s with
        -- looked up by name: `literalSafe` says that the last value of that name is the string itself
        | str t => exact (postprocess_literal (f := ⟨name, ⟨.literal vals, false⟩, dflt, al⟩) rfl rfl t).trans (by rw [eq_of_beq hl])
        | _ => rfl
      · rfl
    | _ => exact Bool.noConfusion ht
  | list l => cases inner <;> first | exact Bool.noConfusion ht | (cases opt <;> rfl)
  | tuple l => cases inner <;> first | exact Bool.noConfusion ht | (cases opt <;> rfl)

theorem leafWithDefault_ok {fenv : FEnv} {force : Bool} {f : FieldSpec} {eff : DefaultV} {ao : ArgOpts} {nsv v : Val}
    (ha : argOptionsEff f eff = some ao) (hr : ao.required = true → force = true) (he : emptyArgvValue fenv ao = .ok nsv)
    (hp : postprocessC f nsv = .ok v) :
    leafWithDefault fenv force f eff = .ok (v, decide (v = defaultVal eff)) := by
  have : (ao.required && !force) = false := by cases h : ao.required <;> simp [hr, h]
  simp [leafWithDefault, ha, this, he, hp]

theorem hasNTy_ne_none {t : NTy} {v : Val} (h : hasNTy t v = true) : v ≠ .sc .none := by
  rintro rfl
  have hb : ∀ b, hasBTy b .none = false := fun b => by cases b <;> rfl
  cases t with
  | sc i => cases i with
    | base b => exact Bool.noConfusion ((hb b).symm.trans h)
    | union a =>
      obtain ⟨b, -, h'⟩ := List.any_eq_true.mp h
      exact Bool.noConfusion ((hb b).symm.trans h')
  | _ => exact Bool.noConfusion h

theorem encode_ne_none {v : Val} (h : v ≠ .sc .none) : encode v ≠ .sc .none := by
  cases v with
  | sc s => cases s <;> first | exact h | exact fun h' => Scalar.noConfusion (Val.sc.inj h')
  | _ => exact Val.noConfusion

/-- `hc`: argparse passes a string default through the annotation's `type=` (Appendix D rule 6) -/
theorem leaf_scalar (fenv : FEnv) (force : Bool) (name : Str) (i : ITy) (opt : Bool) (dflt : DefaultV) (al : List Str)
    (w : Val) (s : Scalar) (hg : scalarTyOk i = true) (ht : hasITy i s = true)
    (hw : w = .sc s ∨ w = .sc (encScalar s)) (hc : ∀ t, w = .sc (.str t) → (convOfItem i).apply fenv 0 t = .ok s) :
    leafWithDefault fenv force ⟨name, ⟨.sc i, opt⟩, dflt, al⟩ (.value w) = .ok (.sc s, decide (Val.sc s = w)) := by
  obtain ⟨ao, ha, hreq, hact⟩ := argOptionsEff_spec ⟨name, ⟨.sc i, opt⟩, dflt, al⟩ (.value w) hg
  -- `encode` turns only Paths and Enum members into something else, a string
  have hns : (∀ t, w ≠ .sc (.str t)) → w = .sc s := fun h => by
    rcases hw with rfl | rfl
    · rfl
    · cases s <;> first | rfl | exact (h _ rfl).elim
  have hsn : Val.sc s ≠ .sc .none := hasNTy_ne_none (t := .sc i) ht
  have hnr : ao.required = true → force = true := fun h => by
    rcases hw with rfl | rfl
    · exact absurd (hreq h).2 hsn
    · exact absurd (hreq h).2 (encode_ne_none hsn)
  rcases hact with ⟨hconv, hd⟩ | ⟨rfl, c, ms, rfl, hconv, hd⟩
  · replace hd : ao.default = w := hd
    refine leafWithDefault_ok ha hnr ?_ (postprocessC_typed ht rfl)
    unfold emptyArgvValue
    split
    · next t hdt => rw [hconv, hc t (hd ▸ hdt)]
    · next hdn => rw [hd, hns fun t h => hdn t (hd ▸ h)]
  · -- a non-Optional Enum field: `default=` is the member's name, checked by `choices=`, looked up by `postprocess`
    cases s <;> first | exact Bool.noConfusion ht | skip
    next c' n =>
      simp only [hasITy, hasBTy, Bool.and_eq_true, beq_iff_eq] at ht
      obtain ⟨rfl, hm⟩ := ht
      have hdn : ao.default = .sc (.str n) := by rcases hw with rfl | rfl <;> exact hd
      exact leafWithDefault_ok ha hnr (nsv := .sc (.str n)) (by simp only [emptyArgvValue, hdn, hconv, Conv.apply, BConv.apply])
        (postprocess_enum_mem (f := ⟨name, ⟨.sc (.base (.enum c ms)), false⟩, dflt, al⟩) rfl rfl hm)

/-- a default that is neither an Enum member nor a string to convert (a Literal's `type=` is `str`) reaches
    `postprocess` as it is -/
theorem leaf_stored (fenv : FEnv) (force : Bool) {f : FieldSpec} (eff : DefaultV) {v : Val} (hg : InCliGrammar f.ty = true)
    (hr : defaultVal eff = .sc .none → f.ty.optional = false → force = true)
    (hs : ∀ t, defaultVal eff = .sc (.str t) → ∃ vals, f.ty.inner = .literal vals)
    (he : ∀ c n, defaultVal eff ≠ .sc (.enum c n)) (hp : postprocessC f (defaultVal eff) = .ok v) :
    leafWithDefault fenv force f eff = .ok (v, decide (v = defaultVal eff)) := by
  obtain ⟨ao, ha, hreq, hact⟩ := argOptionsEff_spec f eff hg
  unfold ActionOf at hact
  have hd : ao.default = defaultVal eff := by
    split at hact
    · rcases hact with ⟨-, hd⟩ | ⟨-, c, ms, -, -, hd⟩
      · exact hd
      · exact hd.trans (enumByName_of_ne he)
    · exact hact.2
    · exact hact
  refine leafWithDefault_ok ha (fun h => hr (hreq h).2 (hreq h).1) ?_ hp
  rw [← hd]
  unfold emptyArgvValue
  split
  · next t ht =>
    obtain ⟨vals, hv⟩ := hs t (hd ▸ ht)
    rw [hv] at hact
    rw [hact.1, ht]
    rfl
  · rfl

theorem leaf_container (fenv : FEnv) (force : Bool) {f : FieldSpec} {w v : Val} (hg : InCliGrammar f.ty = true)
    (hw : ∀ s, w ≠ .sc s) (hp : postprocessC f w = .ok v) :
    leafWithDefault fenv force f (.value w) = .ok (v, decide (v = w)) :=
  leaf_stored fenv force (.value w) hg (fun h => (hw _ h).elim) (fun _ h => (hw _ h).elim) (fun _ _ h => hw _ h) hp

theorem postprocessC_none (f : FieldSpec) : postprocessC f (.sc .none) = .ok (.sc .none) := by
  unfold postprocessC
  split
  · next h => cases h; rfl
  · next h => cases h; rfl
  · exact postprocess_sc f _ nofun

theorem leaf_none (fenv : FEnv) (force : Bool) (f : FieldSpec) (eff : DefaultV) (hg : InCliGrammar f.ty = true)
    (he : defaultVal eff = .sc .none) (hr : f.ty.optional = false → force = true) :
    leafWithDefault fenv force f eff = .ok (.sc .none, true) := by
  rw [leaf_stored fenv force eff hg (fun _ => hr) (fun t h => nomatch he ▸ h) (fun c n h => nomatch he ▸ h)
    (he ▸ postprocessC_none f), he]
  rfl

theorem encScalar_union {alts : List BTy} {s : Scalar} (ha : alts.all unionAltOk = true)
    (ht : alts.any (fun b => hasBTy b s) = true) : encScalar s = s := by
  obtain ⟨b, hb, hbs⟩ := List.any_eq_true.mp ht
  have hok := List.all_eq_true.mp ha b hb
  -- a Path or an Enum member belongs to no alternative that `unionAltOk` admits
  cases s <;> first | rfl | (cases b <;> first | exact Bool.noConfusion hbs | exact Bool.noConfusion hok)

theorem map_encScalar_safe {l : List Scalar} (h : l.all safeItem = true) : l.map encScalar = l := by
  conv => rhs; rw [← List.map_id l]
  refine List.map_congr_left fun s hs => ?_
  have := List.all_eq_true.mp h s hs
  cases s <;> first | rfl | cases this

theorem bconv_encScalar (fenv : FEnv) {b : BTy} {s : Scalar} (ht : hasBTy b s = true) (hp : scalarPathGood s = true)
    {t : Str} (h : encScalar s = .str t) : (bconvOf b).apply fenv t = .ok s := by
  revert ht
  -- one case per line of `hasBTy`; `encode` writes a string for a str, a Path and an Enum member only
  fun_cases hasBTy b s <;> intro ht <;> first | exact Bool.noConfusion ht | cases h
  · rfl
  · exact eq_of_beq hp
  · obtain ⟨hc, hm⟩ := Bool.and_eq_true_iff.mp ht
    cases eq_of_beq hc
    exact if_pos hm

/-- `hw`: the effective default is a definition default (`v` itself) or the file's entry (`encode v`) -/
theorem leaf_value (fenv : FEnv) (force : Bool) (f : FieldSpec) (v w : Val) (hg : InCliGrammar f.ty = true)
    (hv : v ≠ .sc .none) (ht : hasNTy f.ty.inner v = true) (hl : literalSafe f.ty v = true)
    (hu : unionSafe fenv f.ty v = true)
    (hw : w = v ∨ w = encode v ∧ pathsGood v = true ∧ itemsSafe v = true) :
    leafWithDefault fenv force f (.value w) = .ok (v, decide (v = w)) := by
  cases v with
  | sc s =>
    obtain ⟨name, ⟨inner, opt⟩, dflt, al⟩ := f
    cases inner with
    | sc i =>
      refine leaf_scalar fenv force name i opt dflt al w s hg ht (hw.imp_right And.left) fun t h => ?_
      cases i with
      | base b =>
        rcases hw with rfl | ⟨rfl, hp, -⟩
        · cases h
          exact bconv_encScalar fenv ht rfl rfl
        · exact bconv_encScalar fenv ht hp (Val.sc.inj h)
      | union alts =>
        have he : w = .sc s := by
          rcases hw with rfl | ⟨rfl, -⟩
          · rfl
          · exact congrArg Val.sc (encScalar_union (Bool.and_eq_true_iff.mp hg).2 ht)
        subst he
        cases h
        exact eq_of_beq hu
    | literal vals =>
      have he : w = .sc s := by
        rcases hw with rfl | ⟨rfl, -⟩
        · rfl
        · cases s <;> first | rfl | exact Bool.noConfusion ht
      subst he
      exact leaf_stored fenv force (.value (.sc s)) hg (fun h => (hv h).elim) (fun _ _ => ⟨vals, rfl⟩)
        (fun c n h => by cases h; exact Bool.noConfusion ht) (postprocessC_typed ht hl)
    | _ => exact Bool.noConfusion ht
  | list l =>
    have he : w = .list l := by
      rcases hw with rfl | ⟨rfl, -, hi⟩
      · rfl
      · exact congrArg Val.list (map_encScalar_safe hi)
    subst he
    exact leaf_container fenv force hg (fun _ => Val.noConfusion) (postprocessC_typed ht hl)
  | tuple l =>
    have he : w = .tuple l ∨ w = .list l := hw.imp_right fun h => by rw [h.1, encode, map_encScalar_safe h.2.2]
    rcases he with rfl | rfl
    · exact leaf_container fenv force hg (fun _ => Val.noConfusion) (postprocessC_typed ht hl)
    · -- a tuple is written as a list, which `postprocess` turns back into a tuple
      refine leaf_container fenv force hg (fun _ => Val.noConfusion) ?_
      obtain ⟨name, ⟨inner, opt⟩, dflt, al⟩ := f
      cases inner <;> first | exact Bool.noConfusion ht | (cases opt <;> rfl)

theorem hasType_cases {t : FTy} {v : Val} (h : HasType t v = true) :
    v = .sc .none ∧ t.optional = true ∨ v ≠ .sc .none ∧ hasNTy t.inner v = true := by
  rcases Bool.or_eq_true_iff.mp h with h | h
  · obtain ⟨ho, hv⟩ := Bool.and_eq_true_iff.mp h
    exact .inl ⟨eq_of_beq hv, ho⟩
  · exact .inr ⟨hasNTy_ne_none h, h⟩

/-- one leaf: the value `save` wrote comes back as the value `x` held -/
theorem leaf_loop (fenv : FEnv) (force : Bool) (pd : PD) {f : FieldSpec} {v : Val}
    (hm : inModel f v = true) (ht : HasType f.ty v = true) (hs : leafSafe fenv pd f v = true) :
    ∃ eq, parseLeaf fenv force pd f (some (.val (encode v))) = .ok (v, eq) := by
  simp only [inModel, Bool.and_eq_true] at hm
  simp only [leafSafe, Bool.and_eq_true] at hs
  obtain ⟨⟨⟨hitems, hlit⟩, hunion⟩, hnone⟩ := hs
  rcases hasType_cases ht with ⟨rfl, hopt⟩ | ⟨hv, hty⟩
  · -- None: the file's null is no default at all, and the cascade gives None
    have hn : noneDefault pd f = true := by simpa using hnone
    obtain ⟨eff, hc, he⟩ : ∃ eff, cascade pd f (some (encode (.sc .none))) = some eff ∧ defaultVal eff = .sc .none := by
      unfold noneDefault at hn
      split at hn
      · exact ⟨_, ‹_›, rfl⟩
      · exact ⟨_, ‹_›, rfl⟩
      · cases hn
    simp only [parseLeaf, hc]
    exact ⟨_, leaf_none fenv force f eff hm.1 he fun h => Bool.noConfusion (h.symm.trans hopt)⟩
  · -- a value: it is stored as `_default`
    simp only [parseLeaf, show cascade pd f (some (encode v)) = _ from if_neg (encode_ne_none hv)]
    exact ⟨_, leaf_value fenv force f v _ hm.1 hv hty hlit hunion (.inr ⟨rfl, hm.2, hitems⟩)⟩

/-! ### class trees -/

/-- `x` is an instance of the class tree `spec`: same fields in the same order, every leaf in the grammar and of its
    declared type, `None` only in Optional positions -/
def Conforms : Spec → Inst → Prop
  | .nil, x => x = .nil
  | .leaf f rest, x =>
    ∃ v xr, x = .leaf f.name v xr ∧ inModel f v = true ∧ HasType f.ty v = true ∧ Conforms rest xr
  | .sub name cls opt _ child rest, x =>
    (∃ xc xr, x = .sub name cls xc xr ∧ Conforms child xc ∧ Conforms rest xr) ∨
    (∃ xr, x = .subNone name xr ∧ opt = true ∧ Conforms rest xr)

/-- field names are unique within each class (a dataclass guarantees it) -/
def WF : Spec → Prop
  | .nil => True
  | .leaf f rest => f.name ∉ rest.names ∧ WF rest
  | .sub name _ _ _ child rest => name ∉ rest.names ∧ WF child ∧ WF rest

theorem conforms_induction {motive : Spec → Inst → Prop} (nil : motive .nil .nil)
    (leaf : ∀ f rest v xr, inModel f v = true → HasType f.ty v = true → motive rest xr →
      motive (.leaf f rest) (.leaf f.name v xr))
    (sub : ∀ name cls opt dflt child rest xc xr, Conforms child xc → motive child xc → motive rest xr →
      motive (.sub name cls opt dflt child rest) (.sub name cls xc xr))
    (subNone : ∀ name cls dflt child rest xr, motive rest xr →
      motive (.sub name cls true dflt child rest) (.subNone name xr)) :
    ∀ spec x, Conforms spec x → motive spec x := by
  intro spec
  induction spec with
  | nil => rintro x rfl; exact nil
  | leaf f rest ih =>
    rintro x ⟨v, xr, rfl, hm, ht, hr⟩
    exact leaf f rest v xr hm ht (ih xr hr)
  | sub name cls opt dflt child rest ihc ihr =>
    rintro x (⟨xc, xr, rfl, hcc, hr⟩ | ⟨xr, rfl, rfl, hr⟩)
    · exact sub _ _ _ _ _ _ xc xr hcc (ihc xc hcc) (ihr xr hr)
    · exact subNone _ _ _ _ _ xr (ihr xr hr)

theorem keys_fileOf : ∀ (spec : Spec) (x : Inst), Conforms spec x → (fileOf x).keys = spec.names := by
  apply conforms_induction
  · rfl
  · intro f rest v xr _ _ ih
    exact congrArg (f.name :: ·) ih
  · intro name cls opt dflt child rest xc xr _ _ ih
    exact congrArg (name :: ·) ih
  · intro name cls dflt child rest xr ih
    exact congrArg (name :: ·) ih

/-- `F` answers like `G` on the given keys -/
def AgreeOn (ks : List Str) (F G : File) : Prop := ∀ k ∈ ks, F.get k = G.get k

theorem AgreeOn.cons {ks : List Str} {F G H : File} {n : Str} {e : Entry}
    (hH : ∀ k, H.get k = if n = k then some e else G.get k) (hn : n ∉ ks) (h : AgreeOn (n :: ks) F H) :
    F.get n = some e ∧ AgreeOn ks F G := by
  refine ⟨by rw [h n (List.mem_cons_self ..), hH, if_pos rfl], fun k hk => ?_⟩
  rw [h k (List.mem_cons_of_mem _ hk), hH, if_neg fun e : n = k => hn (e ▸ hk)]

theorem quietNone_iff {fenv : FEnv} {child : Spec} {cpd : PD} :
    quietNone fenv child cpd = true ↔ ∃ i, parseSpec fenv true child cpd .nil = .ok (i, true) := by
  unfold quietNone
  split
  · next i h => exact ⟨fun _ => ⟨i, h⟩, fun _ => rfl⟩
  · next h => exact ⟨Bool.noConfusion, fun hx => hx.elim fun i hi => (h i hi).elim⟩

/-- the class-tree induction: every wrapper reproduces its part of `x` from its part of the file -/
theorem parseSpec_loop (fenv : FEnv) : ∀ (spec : Spec) (x : Inst), Conforms spec x → ∀ (force : Bool) (pd : PD) (F : File),
    WF spec → fileSafe fenv spec pd x = true → AgreeOn spec.names F (fileOf x) →
    ∃ b, parseSpec fenv force spec pd F = .ok (x, b) := by
  apply conforms_induction
  · exact fun _ _ _ _ _ _ => ⟨true, rfl⟩
  · intro f rest v xr hm ht ih force pd F hw hs ha
    have hs := Bool.and_eq_true_iff.mp hs
    obtain ⟨hget, ha'⟩ := AgreeOn.cons (fun _ => rfl) hw.1 ha
    obtain ⟨eq, hl⟩ := leaf_loop fenv force pd hm ht hs.1
    obtain ⟨b, hrest⟩ := ih force pd F hw.2 hs.2 ha'
    exact ⟨eq && b, by simp [parseSpec, hget, hl, hrest, Out.both]⟩
  · intro name cls opt dflt child rest xc xr _ ihc ihr force pd F hw hs ha
    have hs := Bool.and_eq_true_iff.mp hs
    obtain ⟨hget, ha'⟩ := AgreeOn.cons (fun _ => rfl) hw.1 ha
    obtain ⟨b, hrest⟩ := ihr force pd F hw.2.2 hs.2 ha'
    cases hp : childPD pd name dflt with
    | none => simp [hp] at hs
    | some cpd =>
      rw [hp] at hs
      obtain ⟨bc, hchild⟩ := ihc (force || opt) cpd (fileOf xc) hw.2.1 hs.1 (fun _ _ => rfl)
      exact ⟨bc && b, by simp [parseSpec, hget, hp, hchild, hrest, Out.both, Out.map, Out.demote]⟩
  · intro name cls dflt child rest xr ihr force pd F hw hs ha
    have hs := Bool.and_eq_true_iff.mp hs
    obtain ⟨hget, ha'⟩ := AgreeOn.cons (fun _ => rfl) hw.1 ha
    obtain ⟨b, hrest⟩ := ihr force pd F hw.2.2 hs.2 ha'
    cases hp : childPD pd name dflt with
    | none => simp [hp] at hs
    | some cpd =>
      rw [hp, Bool.and_eq_true, quietNone_iff] at hs
      obtain ⟨⟨hpn, i, hpc⟩, -⟩ := hs
      exact ⟨b, by simp [parseSpec, hget, hp, hpc, hpn, hrest, Out.both, Out.map, Out.demote]⟩

/-- `set_default` accepts the file `save` wrote: no unknown names, every nested entry a dict or null -/
theorem checkDefaults_ok : ∀ (spec : Spec) (x : Inst), Conforms spec x → ∀ (names : List Str) (F : File),
    WF spec → AgreeOn spec.names F (fileOf x) → (∀ k ∈ F.keys, k ∈ names) → checkDefaults spec names F = none := by
  apply conforms_induction
  · intro names F _ _ hk
    refine if_neg fun h => ?_
    obtain ⟨k, hkF, hc⟩ := List.any_eq_true.mp h
    rw [List.contains_iff_mem.mpr (hk k hkF)] at hc
    cases hc
  · intro f rest v xr _ _ ih names F hw ha hk
    exact ih names F hw.2 (AgreeOn.cons (fun _ => rfl) hw.1 ha).2 hk
  · intro name cls opt dflt child rest xc xr hcc ihc ihr names F hw ha hk
    obtain ⟨hget, ha'⟩ := AgreeOn.cons (fun _ => rfl) hw.1 ha
    have hchild := ihc child.names (fileOf xc) hw.2.1 (fun _ _ => rfl) fun k hkm => keys_fileOf child xc hcc ▸ hkm
    simp only [checkDefaults, hget, hchild, ihr names F hw.2.2 ha' hk]
  · intro name cls dflt child rest xr ihr names F hw ha hk
    obtain ⟨hget, ha'⟩ := AgreeOn.cons (fun _ => rfl) hw.1 ha
    simp only [checkDefaults, hget, ihr names F hw.2.2 ha' hk]

/-! ### both front ends see the same defaults -/

/-- the root-less file given to `parse()` and the dest-keyed file given to `ArgumentParser` are the same defaults, for
    *every* file (a restatement of the two layout definitions, kept as a simp lemma) -/
@[simp] theorem c15_layouts_agree (fenv : FEnv) (dest : Str) (spec : Spec) (f : File) :
    ConfigLoop.run fenv .parse dest spec (layoutFile .parse dest f) = ConfigLoop.run fenv .parser dest spec (layoutFile .parser dest f) :=
  rfl

theorem loop_api (fenv : FEnv) (api : Api) (dest : Str) (spec : Spec) (x : Inst) :
    loop fenv api dest spec x = loop fenv .parse dest spec x := by
  cases api
  · rfl
  · exact (c15_layouts_agree fenv dest spec (fileOf x)).symm

/-! ### the property -/

/-- **C15 (partial: `fileSafe` names the open findings).**  For every class tree, every conforming instance `x`
    and both front ends — `parse()` with the root-less file `save(x)` writes, `ArgumentParser` with the file keyed by the
    destination — parsing an empty command line with the saved file as config file returns exactly `x`.  (Both routes,
    `config_path=` and `--config_path`, end in the same `set_defaults` call, which is what `loop` models; the four formats
    are the file parameter.) -/
theorem c15_loop (fenv : FEnv) (api : Api) (dest : Str) (spec : Spec) (x : Inst)
    (hc : Conforms spec x) (hw : WF spec) (hs : fileSafe fenv spec .empty x = true) :
    loop fenv api dest spec x = .ok x := by
  have hchk : checkDefaults spec spec.names (fileOf x) = none :=
    checkDefaults_ok spec x hc spec.names (fileOf x) hw (fun _ _ => rfl) fun k hk => keys_fileOf spec x hc ▸ hk
  obtain ⟨b, hp⟩ := parseSpec_loop fenv spec x hc false .empty (fileOf x) hw hs (fun _ _ => rfl)
  rw [loop_api]
  simp [loop, ConfigLoop.run, layoutFile, File.get, hchk, hp, Out.map]

/-- the statement without the exclusion -/
def FullStatement : Prop :=
  ∀ (fenv : FEnv) (api : Api) (dest : Str) (spec : Spec) (x : Inst), Conforms spec x → WF spec →
    loop fenv api dest spec x = .ok x

/-! ### executable forms of the hypotheses (what the driver op `cl.filesafe` evaluates) -/

theorem conforms_of_B {spec : Spec} {x : Inst} : conformsB spec x = true → Conforms spec x := by
  fun_induction conformsB spec x with
  | case1 => exact fun _ => rfl
  | case2 f rest n v xr ih =>
    intro h
    simp only [Bool.and_eq_true, beq_iff_eq] at h
    obtain ⟨⟨⟨rfl, hm⟩, ht⟩, hr⟩ := h
    exact ⟨v, xr, rfl, hm, ht, ih hr⟩
  | case3 name cls opt dflt child rest n c xc xr ihc ihr =>
    intro h
    simp only [Bool.and_eq_true, beq_iff_eq] at h
    obtain ⟨⟨⟨rfl, rfl⟩, hc⟩, hr⟩ := h
    exact .inl ⟨xc, xr, rfl, ihc hc, ihr hr⟩
  | case4 name cls opt dflt child rest n xr ih =>
    intro h
    simp only [Bool.and_eq_true, beq_iff_eq] at h
    obtain ⟨⟨rfl, ho⟩, hr⟩ := h
    exact .inr ⟨xr, rfl, ho, ih hr⟩
  | case5 => exact nofun

theorem wf_of_B {spec : Spec} : wfB spec = true → WF spec := by
  fun_induction wfB spec with
  | case1 => exact fun _ => trivial
  | case2 f rest ih =>
    intro h
    simp only [Bool.and_eq_true, Bool.not_eq_true', List.contains_eq_mem, decide_eq_false_iff_not] at h
    exact ⟨h.1, ih h.2⟩
  | case3 name cls opt dflt child rest ihc ihr =>
    intro h
    simp only [Bool.and_eq_true, Bool.not_eq_true', List.contains_eq_mem, decide_eq_false_iff_not] at h
    exact ⟨h.1.1, ihc h.1.2, ihr h.2⟩

/-- `c15_loop` with all hypotheses in their executable form: what `cl.filesafe` returns `true` for round-trips -/
theorem c15_loop_decidable (fenv : FEnv) (api : Api) (dest : Str) (spec : Spec) (x : Inst)
    (h : (conformsB spec x && wfB spec && fileSafe fenv spec .empty x) = true) :
    loop fenv api dest spec x = .ok x := by
  simp only [Bool.and_eq_true] at h
  exact c15_loop fenv api dest spec x (conforms_of_B h.1.1) (wf_of_B h.1.2) h.2

/-! ### when does an `Optional[Dataclass]` holding None come back as None?  (a syntactic sufficient condition) -/

/-- a leaf default that passes through the pipeline unchanged: a well-typed value (no shadowed Literal string, no
    re-parsed Union string), or nothing at all -/
def leafQuiet (fenv : FEnv) (f : FieldSpec) (eff : DefaultV) : Bool :=
  InCliGrammar f.ty &&
  match eff with
  | .value d => HasType f.ty d && literalSafe f.ty d && unionSafe fenv f.ty d
  | .missing => true

/-- a quiet leaf default reaches the constructor unchanged, and the argument equals the default -/
theorem leafQuiet_ok (fenv : FEnv) (f : FieldSpec) (eff : DefaultV) (h : leafQuiet fenv f eff = true) :
    leafWithDefault fenv true f eff = .ok (defaultVal eff, true) := by
  cases eff with
  | missing => exact leaf_none fenv true f _ (Bool.and_eq_true_iff.mp h).1 rfl fun _ => rfl
  | value d =>
    simp only [leafQuiet, Bool.and_eq_true] at h
    rcases hasType_cases h.2.1.1 with ⟨rfl, -⟩ | ⟨hv, hty⟩
    · exact leaf_none fenv true f _ h.1 rfl fun _ => rfl
    · rw [leaf_value fenv true f d d h.1 hv hty h.2.1.2 h.2.2 (.inl rfl), decide_eq_true rfl]
      rfl

/-- every leaf default below this wrapper is quiet (with the wrappers' `defaults` threaded as the code does) -/
def defaultsQuiet (fenv : FEnv) : Spec → PD → Bool
  | .nil, _ => true
  | .leaf f rest, pd =>
    (match cascade pd f none with
     | some eff => leafQuiet fenv f eff
     | none => false) && defaultsQuiet fenv rest pd
  | .sub name _ _ dflt child rest, pd =>
    (match childPD pd name dflt with
     | some cpd => defaultsQuiet fenv child cpd
     | none => false) && defaultsQuiet fenv rest pd

theorem parseSpec_quiet (fenv : FEnv) (spec : Spec) (pd : PD) : defaultsQuiet fenv spec pd = true →
    ∃ i, parseSpec fenv true spec pd .nil = .ok (i, true) := by
  fun_induction defaultsQuiet fenv spec pd with
  | case1 => exact fun _ => ⟨_, rfl⟩
  | case2 f rest pd ih =>
    intro h
    simp only [Bool.and_eq_true] at h
    obtain ⟨i, hi⟩ := ih h.2
    have h1 := h.1
    split at h1
    · next eff hc =>
      exact ⟨.leaf f.name (defaultVal eff) i, by simp [parseSpec, File.get, parseLeaf, hc, leafQuiet_ok fenv f eff h1, hi, Out.both]⟩
    · cases h1
  | case3 name cls opt dflt child rest pd ihc ihr =>
    intro h
    simp only [Bool.and_eq_true] at h
    obtain ⟨i, hi⟩ := ihr h.2
    have h1 := h.1
    split at h1
    · next cpd hp =>
      obtain ⟨ic, hic⟩ := ihc cpd h1
      cases ho : opt && cpd.isNone
      · exact ⟨.sub name cls ic i, by simp [parseSpec, File.get, hp, hic, hi, ho, Out.both, Out.map, Out.demote]⟩
      · exact ⟨.subNone name i, by simp [parseSpec, File.get, hp, hic, hi, ho, Out.both, Out.map, Out.demote]⟩
    · cases h1

theorem quietNone_of_defaults {fenv : FEnv} {child : Spec} {cpd : PD} (h : defaultsQuiet fenv child cpd = true) :
    quietNone fenv child cpd = true :=
  quietNone_iff.mpr (parseSpec_quiet fenv child cpd h)

/-- `fileSafe` with the None-class clause in its *syntactic* form: no default instance for the member, and every leaf
    default below it well-typed (`defaultsQuiet`) — no reference to the model's own `parseSpec` -/
def fileSafeSyn (fenv : FEnv) : Spec → PD → Inst → Bool
  | .nil, _, .nil => true
  | .leaf f rest, pd, .leaf _ v xr => leafSafe fenv pd f v && fileSafeSyn fenv rest pd xr
  | .sub name _ _ dflt child rest, pd, .sub _ _ xc xr =>
    (match childPD pd name dflt with
     | some cpd => fileSafeSyn fenv child cpd xc
     | none => false) && fileSafeSyn fenv rest pd xr
  | .sub name _ _ dflt child rest, pd, .subNone _ xr =>
    (match childPD pd name dflt with
     | some cpd => cpd.isNone && defaultsQuiet fenv child cpd
     | none => false) && fileSafeSyn fenv rest pd xr
  | _, _, _ => false

theorem fileSafe_of_syn {fenv : FEnv} {spec : Spec} {pd : PD} {x : Inst} :
    fileSafeSyn fenv spec pd x = true → fileSafe fenv spec pd x = true := by
  fun_induction fileSafeSyn fenv spec pd x with
  | case1 => exact fun _ => rfl
  | case2 f rest pd n v xr ih =>
    intro h
    have h := Bool.and_eq_true_iff.mp h
    exact Bool.and_eq_true_iff.mpr ⟨h.1, ih h.2⟩
  | case3 name cls opt dflt child rest pd n c xc xr ihc ihr =>
    intro h
    have h := Bool.and_eq_true_iff.mp h
    refine Bool.and_eq_true_iff.mpr ⟨?_, ihr h.2⟩
    have h1 := h.1
    split at h1
    · next cpd hp => rw [hp]; exact ihc cpd h1
    · cases h1
  | case4 name cls opt dflt child rest pd n xr ih =>
    intro h
    have h := Bool.and_eq_true_iff.mp h
    refine Bool.and_eq_true_iff.mpr ⟨?_, ih h.2⟩
    have h1 := h.1
    split at h1
    · next cpd hp =>
      rw [hp]
      have h1 := Bool.and_eq_true_iff.mp h1
      exact Bool.and_eq_true_iff.mpr ⟨h1.1, quietNone_of_defaults h1.2⟩
    · cases h1
  | case5 => exact nofun

/-- **C15, purely syntactic exclusion**: the same conclusion as `c15_loop` from `fileSafeSyn` -/
theorem c15_loop_syntactic (fenv : FEnv) (api : Api) (dest : Str) (spec : Spec) (x : Inst)
    (hc : Conforms spec x) (hw : WF spec) (hs : fileSafeSyn fenv spec .empty x = true) :
    loop fenv api dest spec x = .ok x :=
  c15_loop fenv api dest spec x hc hw (fileSafe_of_syn hs)

/-! ### the per-action shortcut agrees with the argparse engine model on an empty command line -/

/-- the action `Fields.fieldAct` builds from `get_arg_options` (store actions) -/
def actOf (ao : ArgOpts) (opts : List Str) (dest : Str) : Act :=
  { opts := opts, dest := dest, kind := .store, nargs := ao.nargs, conv := ao.conv, choices := ao.choices,
    required := ao.required, default := some ao.default }

theorem run_empty_one (fenv : FEnv) (ao : ArgOpts) (opts : List Str) (dest : Str) :
    SpVerif.run fenv [actOf ao opts dest] [0] [] =
      if ao.required then .exit 2 .required else
      match ao.default with
      | .sc (.str s) => match ao.conv.apply fenv 0 s with
        | .ok v => .ok [(dest, .sc v)] [] [0]
        | .typeErr => .exit 2 .type
        | .raise e => .raise e
        | .unmodelled => .unmodelled "default conversion"
      | d => .ok [(dest, d)] [] [0] := by
  obtain ⟨nargs, conv, choices, required, dflt, isBool⟩ := ao
  -- nothing to lex or consume: `run` is `finish` on the initial namespace
  show (match finish fenv [_] ⟨[(dest, dflt)], [], [], [0]⟩ [(_, 0)] with
      | .error e => e
      | .ok st => .ok st.ns st.extras st.counters) = _
  cases required with
  | true => rfl
  | false =>
    rw [finish.eq_2, finish.eq_1]
    cases dflt with
    | sc sc =>
      cases sc with
      | str s =>
        -- the string default is still in the namespace: it is converted and stored in its place
        have hk : ∀ v, setKey [(dest, Val.sc (.str s))] dest v = [(dest, v)] := fun v => by simp [setKey]
        simp only [actOf, List.lookup_cons_self, List.getD_cons_zero, hk, if_true]
        cases conv.apply fenv 0 s <;> rfl
      | _ => rfl
    | _ => rfl

/-- `Engine.run` on `[]` for one non-required store action stores exactly `emptyArgvValue` (Appendix D rules 1, 6) -/
theorem emptyArgv_engine_ok (fenv : FEnv) (ao : ArgOpts) (opts : List Str) (dest : Str) (v : Val)
    (hr : ao.required = false) (h : emptyArgvValue fenv ao = .ok v) :
    SpVerif.run fenv [actOf ao opts dest] [0] [] = .ok [(dest, v)] [] [0] := by
  rw [run_empty_one, hr, if_neg Bool.false_ne_true]
  unfold emptyArgvValue at h
  split at h
  · next s hd =>
    split at h <;> cases h
    next w hc => simp only [hd, hc]
  · next hd =>
    cases h
    split
    · next s hs => exact (hd s hs).elim
    · rfl

/-- … and an `exit2` of the shortcut is the engine's `invalid … value` error -/
theorem emptyArgv_engine_exit (fenv : FEnv) (ao : ArgOpts) (opts : List Str) (dest : Str)
    (hr : ao.required = false) (h : emptyArgvValue fenv ao = .exit2) :
    SpVerif.run fenv [actOf ao opts dest] [0] [] = .exit 2 .type := by
  rw [run_empty_one, hr, if_neg Bool.false_ne_true]
  unfold emptyArgvValue at h
  split at h
  · next s hd =>
    split at h <;> cases h
    next hc => simp only [hd, hc]
  · cases h

/-- a required action that was not given is the engine's `required` error (the shortcut's first check) -/
theorem emptyArgv_engine_required (fenv : FEnv) (ao : ArgOpts) (opts : List Str) (dest : Str) (hr : ao.required = true) :
    SpVerif.run fenv [actOf ao opts dest] [0] [] = .exit 2 .required := by
  rw [run_empty_one, hr]
  rfl

/-! ### the open findings: the model reproduces them, so the full statement is false -/

def colorTy : BTy := .enum "Color".toList ["RED".toList, "GREEN".toList, "BLUE".toList]

/-- `items: List[Color] = []` holding `[Color.GREEN]` -/
def specItems : Spec := .leaf ⟨"items".toList, ⟨.list (.base colorTy), false⟩, .value (.list []), []⟩ .nil
def xItems : Inst := .leaf "items".toList (.list [.enum "Color".toList "GREEN".toList]) .nil

/-- `opt: Optional[str] = "q"` holding `None` -/
def specNone : Spec := .leaf ⟨"opt".toList, ⟨.sc (.base .str), true⟩, .value (.sc (.str "q".toList)), []⟩ .nil
def xNone : Inst := .leaf "opt".toList (.sc .none) .nil

/-- `sub: Optional[K1] = field(default_factory=K1)` holding `None`, with `class K1: k: int = 0` -/
def specClassNone : Spec :=
  .sub "sub".toList "K1".toList true (.inst (.leaf "k".toList (.sc (.int 0)) .nil))
    (.leaf ⟨"k".toList, ⟨.sc (.base .int), false⟩, .value (.sc (.int 0)), []⟩ .nil) .nil
def xClassNone : Inst := .subNone "sub".toList .nil

/-- `sub: Optional[K1] = None` holding `None`, with `class K1: w: Tuple[bool, ...]` (no default): repaired upstream
    (`tuple(None)` no longer raised), kept as a regression example -/
def specTupleNone : Spec :=
  .sub "sub".toList "K1".toList true .none (.leaf ⟨"w".toList, ⟨.vtuple (.base .bool), false⟩, .missing, []⟩ .nil) .nil
def xTupleNone : Inst := .subNone "sub".toList .nil

/-- `k: Literal["0", 0]` holding `"0"` -/
def specLit : Spec :=
  .leaf ⟨"k".toList, ⟨.literal [.str "0".toList, .int 0], false⟩, .missing, []⟩ .nil
def xLit : Inst := .leaf "k".toList (.sc (.str "0".toList)) .nil

/-- `u: Union[int, str] = 1` holding `"3"` -/
def specUnion : Spec := .leaf ⟨"u".toList, ⟨.sc (.union [.int, .str]), false⟩, .value (.sc (.int 1)), []⟩ .nil
def xUnion : Inst := .leaf "u".toList (.sc (.str "3".toList)) .nil

attribute [lit] colorTy specItems xItems specNone xNone specClassNone xClassNone specTupleNone xTupleNone specLit xLit
  specUnion xUnion

/-- `o` is `.ok y`, as a Boolean test: `Out` has no decidable equality, and through this test a closed run of the loop is
    evaluated by the kernel alone (`decide_lit`) -/
def returns (o : Out Inst) (y : Inst) : Bool :=
  match o with
  | .ok x => x == y
  | _ => false

theorem eq_ok_of_returns {o : Out Inst} {y : Inst} (h : returns o y = true) : o = .ok y := by
  cases o <;> first | exact Bool.noConfusion h | exact congrArg _ (eq_of_beq h)

/-- C15-D17a: the enum item comes back as the string `"GREEN"` -/
theorem c15_items_witness (api : Api) :
    loop [] api "config".toList specItems xItems = .ok (.leaf "items".toList (.list [.str "GREEN".toList]) .nil) := by
  rw [loop_api]
  exact eq_ok_of_returns (by decide_lit)

/-- C15-D17b: the saved `None` comes back as the definition default `"q"` -/
theorem c15_none_witness (api : Api) :
    loop [] api "config".toList specNone xNone = .ok (.leaf "opt".toList (.sc (.str "q".toList)) .nil) := by
  rw [loop_api]
  exact eq_ok_of_returns (by decide_lit)

/-- C15-none-class-is-absent: the saved `None` comes back as the `default_factory` instance `K1(k=0)` -/
theorem c15_class_none_witness (api : Api) :
    loop [] api "config".toList specClassNone xClassNone
      = .ok (.sub "sub".toList "K1".toList (.leaf "k".toList (.sc (.int 0)) .nil) .nil) := by
  rw [loop_api]
  exact eq_ok_of_returns (by decide_lit)

/-- C15-literal-name-collision: the saved `"0"` comes back as the int `0` (the later value with the same `str()`) -/
theorem c15_literal_witness (api : Api) :
    loop [] api "config".toList specLit xLit = .ok (.leaf "k".toList (.sc (.int 0)) .nil) := by
  rw [loop_api]
  exact eq_ok_of_returns (by decide_lit)

/-- C15-union-str-reparsed: the saved `"3"` is a string default, parsed again by `type=` (int first): it comes back `3` -/
theorem c15_union_witness (api : Api) :
    loop [] api "config".toList specUnion xUnion = .ok (.leaf "u".toList (.sc (.int 3)) .nil) := by
  rw [loop_api]
  exact eq_ok_of_returns (by decide_lit)

/-- a Tuple field without default inside a None class round-trips (a finding before the upstream repair) -/
theorem c15_tuple_none_fixed (api : Api) : loop [] api "config".toList specTupleNone xTupleNone = .ok xTupleNone := by
  rw [loop_api]
  exact eq_ok_of_returns (by decide_lit)

theorem not_full {fenv : FEnv} {api : Api} {dest : Str} {spec : Spec} {x y : Inst} (hc : conformsB spec x = true)
    (hw : wfB spec = true) (h : loop fenv api dest spec x = .ok y) (hne : y ≠ x) : ¬ FullStatement := fun hf =>
  hne (Out.ok.inj (h.symm.trans (hf fenv api dest spec x (conforms_of_B hc) (wf_of_B hw))))

theorem c15_full_witness_items : ¬ FullStatement :=
  not_full (by decide_lit) (by decide_lit) (c15_items_witness .parse) (by decide_lit)

theorem c15_full_witness_none : ¬ FullStatement :=
  not_full (by decide_lit) (by decide_lit) (c15_none_witness .parse) (by decide_lit)

theorem c15_full_witness_class_none : ¬ FullStatement :=
  not_full (by decide_lit) (by decide_lit) (c15_class_none_witness .parser) (by decide_lit)

theorem c15_full_witness_literal : ¬ FullStatement :=
  not_full (by decide_lit) (by decide_lit) (c15_literal_witness .parse) (by decide_lit)

theorem c15_full_witness_union : ¬ FullStatement :=
  not_full (by decide_lit) (by decide_lit) (c15_union_witness .parse) (by decide_lit)

/-- the exclusion is the right one: `fileSafe` rejects these inputs … -/
example : fileSafe [] specItems .empty xItems = false := by rfl
example : fileSafe [] specNone .empty xNone = false := by rfl
example : fileSafe [] specClassNone .empty xClassNone = false := by rfl
example : fileSafe [] specLit .empty xLit = false := by decide_lit
example : fileSafe [] specUnion .empty xUnion = false := by decide_lit
/-- … and exactly these: the repaired Tuple case, the int `0` of the same Literal, `"0"` when it comes last in the Literal,
    an int or a non-numeric str in the same Union are all safe -/
example : fileSafe [] specTupleNone .empty xTupleNone = true := by decide_lit
example : fileSafe [] specLit .empty (.leaf "k".toList (.sc (.int 0)) .nil) = true := by rfl
example : fileSafe [] (.leaf ⟨"k".toList, ⟨.literal [.int 0, .str "0".toList], false⟩, .missing, []⟩ .nil) .empty xLit = true := by decide_lit
example : fileSafe [] specUnion .empty (.leaf "u".toList (.sc (.int 3)) .nil) = true := by rfl
example : fileSafe [] specUnion .empty (.leaf "u".toList (.sc (.str "x3".toList)) .nil) = true := by decide_lit

/-! ### `inModel`: what is outside the *model* (one example per clause; none of these is a claim about the code) -/

example : inModel ⟨"a".toList, ⟨.sc (.base .any), false⟩, .missing, []⟩ (.sc (.str "x".toList)) = false := by rfl          -- Any
example : inModel ⟨"l".toList, ⟨.list (.union [.int, .str]), false⟩, .missing, []⟩ (.list []) = false := by rfl            -- List[Union]
example : inModel ⟨"u".toList, ⟨.sc (.union [.int, .path]), false⟩, .missing, []⟩ (.sc (.int 1)) = false := by rfl         -- Union with Path
example : inModel ⟨"o".toList, ⟨.literal [.int 1], true⟩, .missing, []⟩ (.sc (.int 1)) = false := by rfl                  -- Optional[Literal]
example : inModel ⟨"m".toList, ⟨.literal [.enum "Color".toList "RED".toList], false⟩, .missing, []⟩
    (.sc (.enum "Color".toList "RED".toList)) = false := by rfl                                                           -- Enum-valued Literal
example : inModel ⟨"p".toList, ⟨.sc (.base .path), false⟩, .missing, []⟩ (.sc (.path "a//b".toList)) = false := by decide_lit      -- path to normalise
/-- a non-Optional annotation with a `None` default (`a: int = None`) IS in the model and round-trips -/
example : loop [] .parse "config".toList (.leaf ⟨"a".toList, ⟨.sc (.base .int), false⟩, .value (.sc .none), []⟩ .nil)
    (.leaf "a".toList (.sc (.int 5)) .nil) = .ok (.leaf "a".toList (.sc (.int 5)) .nil) :=
  c15_loop_decidable [] .parse _ _ _ (by decide_lit)

/-! ### non-vacuity: a nested class tree with an enum, a path, tuples, a Union, Optionals and an Optional class -/

/-- ```
    class Inner:  e: Color = RED ; p: Optional[Path] = None ; t: Tuple[int, str] = (1, "a")
    class Outer:  n: int ; name: str = "x" ; l: List[float] = [] ; inner: Inner = Inner() ; maybe: Optional[Inner] = None
                  other: Optional[Inner] = None ; o: Optional[int] = None ; u: Union[int, str] = 0 ; a: int = None
    ``` -/
def exInner : Spec :=
  .leaf ⟨"e".toList, ⟨.sc (.base colorTy), false⟩, .value (.sc (.enum "Color".toList "RED".toList)), []⟩ <|
  .leaf ⟨"p".toList, ⟨.sc (.base .path), true⟩, .value (.sc .none), []⟩ <|
  .leaf ⟨"t".toList, ⟨.tuple [.base .int, .base .str], false⟩, .value (.tuple [.int 1, .str "a".toList]), []⟩ .nil

def exInnerDefault : Inst :=
  .leaf "e".toList (.sc (.enum "Color".toList "RED".toList)) <| .leaf "p".toList (.sc .none) <|
  .leaf "t".toList (.tuple [.int 1, .str "a".toList]) .nil

def exOuter : Spec :=
  .leaf ⟨"n".toList, ⟨.sc (.base .int), false⟩, .missing, []⟩ <|
  .leaf ⟨"name".toList, ⟨.sc (.base .str), false⟩, .value (.sc (.str "x".toList)), []⟩ <|
  .leaf ⟨"l".toList, ⟨.list (.base .float), false⟩, .value (.list []), []⟩ <|
  .sub "inner".toList "Inner".toList false (.inst exInnerDefault) exInner <|
  .sub "maybe".toList "Inner".toList true .none exInner <|
  .sub "other".toList "Inner".toList true .none exInner <|
  .leaf ⟨"o".toList, ⟨.sc (.base .int), true⟩, .value (.sc .none), []⟩ <|
  .leaf ⟨"u".toList, ⟨.sc (.union [.int, .str]), false⟩, .value (.sc (.int 0)), []⟩ <|
  .leaf ⟨"a".toList, ⟨.sc (.base .int), false⟩, .value (.sc .none), []⟩ .nil

def exX : Inst :=
  .leaf "n".toList (.sc (.int (-5))) <|
  .leaf "name".toList (.sc (.str "None".toList)) <|
  .leaf "l".toList (.list [.float "1e-07".toList, .float "inf".toList]) <|
  .sub "inner".toList "Inner".toList
    (.leaf "e".toList (.sc (.enum "Color".toList "BLUE".toList)) <| .leaf "p".toList (.sc (.path "a/b".toList)) <|
     .leaf "t".toList (.tuple [.int 0, .str "".toList]) .nil) <|
  .sub "maybe".toList "Inner".toList
    (.leaf "e".toList (.sc (.enum "Color".toList "RED".toList)) <| .leaf "p".toList (.sc .none) <|
     .leaf "t".toList (.tuple [.int 1, .str "a".toList]) .nil) <|
  .subNone "other".toList <|
  .leaf "o".toList (.sc .none) <|
  .leaf "u".toList (.sc (.str "three".toList)) <|
  .leaf "a".toList (.sc (.int 7)) .nil

attribute [lit] exInner exInnerDefault exOuter exX

/-- the executable hypotheses on this input, evaluated once -/
theorem exOuter_checks :
    conformsB exOuter exX = true ∧ wfB exOuter = true ∧ fileSafeSyn [] exOuter .empty exX = true := by decide_lit
theorem exInner_quiet : defaultsQuiet [] exInner .none = true := by decide_lit

theorem exOuter_conforms : Conforms exOuter exX := conforms_of_B exOuter_checks.1
theorem exOuter_wf : WF exOuter := wf_of_B exOuter_checks.2.1
theorem exOuter_safe : fileSafe [] exOuter .empty exX = true := fileSafe_of_syn exOuter_checks.2.2

/-- the hypotheses of `c15_loop` (and of its syntactic and decidable forms) hold for this input, so the theorems are not
    vacuous; the conclusion is the concrete equation one can also compute -/
example : loop [] .parse "config".toList exOuter exX = .ok exX :=
  c15_loop [] .parse _ exOuter exX exOuter_conforms exOuter_wf exOuter_safe
example : loop [] .parser "cfg".toList exOuter exX = .ok exX :=
  c15_loop_syntactic [] .parser _ exOuter exX exOuter_conforms exOuter_wf exOuter_checks.2.2
example : loop [] .parser "cfg".toList exOuter exX = .ok exX :=
  c15_loop_decidable [] .parser _ exOuter exX (by rw [exOuter_checks.1, exOuter_checks.2.1, exOuter_safe]; rfl)
example : fileSafe [] exOuter .empty exX = true := exOuter_safe

example : defaultsQuiet [] exInner .none = true := exInner_quiet
example : quietNone [] exInner .none = true := quietNone_of_defaults exInner_quiet
example : defaultsQuiet [] (.leaf ⟨"w".toList, ⟨.vtuple (.base .bool), false⟩, .missing, []⟩ .nil) .none = true := by rfl

/-! non-vacuity of the leaf lemmas and of the auxiliary theorems: each hypothesis list is satisfied by a concrete,
    non-trivial input -/
example := leaf_scalar [] false "e".toList (.base colorTy) false (.value (.sc .none)) [] _ (.enum "Color".toList "GREEN".toList)
  rfl (by decide_lit) (.inr rfl) fun _ h => by cases Scalar.str.inj (Val.sc.inj h); decide_lit
example := leaf_scalar [] false "p".toList (.base .path) false .missing [] _ (.path "a/b".toList) rfl rfl (.inr rfl)
  fun _ h => by cases Scalar.str.inj (Val.sc.inj h); decide_lit
example := leaf_scalar [] false "p".toList (.base .path) true (.value (.sc .none)) [] _ (.path "a/b".toList) rfl rfl
  (.inr rfl) fun _ h => by cases Scalar.str.inj (Val.sc.inj h); decide_lit
example := leaf_scalar [] false "e".toList (.base colorTy) true .missing [] _ (.enum "Color".toList "BLUE".toList)
  rfl (by decide_lit) (.inr rfl) fun _ h => by cases Scalar.str.inj (Val.sc.inj h); decide_lit
example := leaf_scalar [] false "u".toList (.union [.int, .str]) false .missing [] _ (.str "x".toList) rfl rfl
  (.inl rfl) fun _ h => by cases Scalar.str.inj (Val.sc.inj h); decide_lit
example := leaf_scalar [("1.5".toList, some "1.5".toList)] false "u".toList (.union [.str, .float]) true .missing [] _
  (.str "1.5".toList) (by rfl) (by rfl) (.inl rfl) fun _ h => by cases Scalar.str.inj (Val.sc.inj h); decide_lit
example := leaf_value [] false ⟨"l".toList, ⟨.list (.base .int), false⟩, .missing, []⟩ (.list [.int 1, .int (-2)]) _
  rfl nofun rfl rfl rfl (.inr ⟨rfl, rfl, rfl⟩)
example := leaf_value [] false ⟨"t".toList, ⟨.tuple [.base .int, .base .str, .base .float], true⟩, .value (.sc .none), []⟩
  (.tuple [.int 1, .str "a b".toList, .float "2.5".toList]) _ rfl nofun rfl rfl rfl (.inr ⟨rfl, rfl, rfl⟩)
example := leaf_value [] false ⟨"t".toList, ⟨.vtuple (.base .bool), false⟩, .value (.tuple []), []⟩
  (.tuple [.bool true, .bool false]) _ rfl nofun rfl rfl rfl (.inr ⟨rfl, rfl, rfl⟩)
example := leaf_value [] false ⟨"m".toList, ⟨.literal [.int 0, .str "zero".toList, .int 1], false⟩, .missing, []⟩
  (.sc (.str "zero".toList)) _ (by decide_lit) nofun (by decide_lit) (by decide_lit) rfl (.inr ⟨rfl, rfl, rfl⟩)
example := leaf_none [] false ⟨"o".toList, ⟨.tuple [.base .int, .base .int], true⟩, .missing, []⟩ .missing rfl rfl nofun
example : ∃ eq, parseLeaf [] false .empty ⟨"e".toList, ⟨.sc (.base colorTy), true⟩, .value (.sc .none), []⟩
    (some (.val (encode (.sc (.enum "Color".toList "GREEN".toList))))) = .ok (.sc (.enum "Color".toList "GREEN".toList), eq) :=
  leaf_loop [] false .empty (by decide_lit) (by decide_lit) (by decide_lit)
example : ∃ b, parseSpec [] false exOuter .empty (fileOf exX) = .ok (exX, b) :=
  parseSpec_loop [] exOuter exX exOuter_conforms false .empty _ exOuter_wf exOuter_safe (fun _ _ => rfl)
example : checkDefaults exOuter exOuter.names (fileOf exX) = none :=
  checkDefaults_ok exOuter exX exOuter_conforms _ _ exOuter_wf (fun _ _ => rfl)
    fun _ hk => keys_fileOf exOuter exX exOuter_conforms ▸ hk
example := leafQuiet_ok [] ⟨"t".toList, ⟨.tuple [.base .path, .base colorTy], false⟩,
  .value (.tuple [.path "a".toList, .enum "Color".toList "RED".toList]), []⟩
  (.value (.tuple [.path "a".toList, .enum "Color".toList "RED".toList])) (by decide_lit)
example := leaf_none [] true ⟨"w".toList, ⟨.vtuple (.base .bool), false⟩, .missing, []⟩ .missing rfl rfl fun _ => rfl
example := leaf_scalar [] true "u".toList (.union [.int, .str]) false .missing [] _ (.int 4) rfl rfl (.inl rfl) nofun
/-- `p: Optional[Path]` with the raw file value `"a/b"`: the engine converts the string default with `type=Path` -/
example := emptyArgv_engine_ok [] ⟨.opt, .base .path, none, false, .sc (.str "a/b".toList), false⟩ ["--p".toList] "config.p".toList
  (.sc (.path "a/b".toList)) rfl (by rfl_lit)
/-- `i: int` with the ill-typed raw file value `"ab"` -/
example := emptyArgv_engine_exit [] ⟨.one, .base .int, none, false, .sc (.str "ab".toList), false⟩ ["--i".toList] "config.i".toList
  rfl (by rfl_lit)
example := emptyArgv_engine_required [] ⟨.one, .base .int, none, true, .sc .none, false⟩ ["--i".toList] "config.i".toList rfl

end SpVerif.C15
