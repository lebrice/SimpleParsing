/-
  C05 — to_dict/from_dict, JSON, YAML and file round-trips preserve every value and type.
  Theorems about `SpVerif.Model.Serial` (mirrors encoding.py / decoding.py / serializable.py).
-/
import SpVerif.Model.Serial
import SpVerif.Lemmas.Serial
import SpVerif.Lemmas.Lit
namespace SpVerif.C05
open SpVerif SpVerif.Serial

/-! ### the type grammar of the property (`wf`), typing of values (`hasType`) -/

/-- key types of `Dict[K, V]` -/
def keyTy : FTy → Bool
  | .str | .int | .bool | .path => true
  | .enum _ _ => true
  | _ => false

mutual
/-- element types of `Set[T]`: hashable values -/
def hashTy : FTy → Bool
  | .int | .float | .str | .bool | .path => true
  | .enum _ _ => true
  | .vtuple t => hashTy t
  | .tuple ts => hashTyL ts
  | _ => false
def hashTyL : List FTy → Bool
  | [] => true
  | t :: ts => hashTy t && hashTyL ts
end

def litLeaf : Val → Bool
  | .str _ | .int _ | .bool _ => true
  | _ => false

mutual
/-- **InGrammar**: the type grammar of the property (no `Any`, no per-field hooks, every field in the dict) -/
def wf : FTy → Bool
  | .int | .float | .str | .bool | .path => true
  | .any | .noneT => false
  | .enum _ _ => true
  | .literal vals => vals.all litLeaf
  | .list t => wf t
  | .vtuple t => wf t
  | .set t => wf t && hashTy t
  | .tuple ts => wfL ts
  | .dict k v => keyTy k && wf v
  | .union alts => wfU alts
  | .dc _ _ fs => wfF fs
def wfL : List FTy → Bool
  | [] => true
  | t :: ts => wf t && wfL ts
def wfU : List FTy → Bool
  | [] => true
  | t :: ts => (t.isNoneT || wf t) && wfU ts
def wfF : List (Str × FMeta × Option Val × FTy) → Bool
  | [] => true
  | (n, m, _, t) :: fs =>
    m.toDict && m.enc.isNone && m.dec.isNone && wf t && !(n == DC_TYPE_KEY) && fs.all (fun f => !(f.1 == n)) && wfF fs
end

/-- set elements are pairwise different under Python `==` -/
def elemsDistinct : List Val → Bool
  | [] => true
  | x :: xs => xs.all (fun y => !pyEq x y) && elemsDistinct xs

mutual
/-- **HasType**: `v` is an instance of the annotation `t` (Dict fields described as plain dicts; an OrderedDict with the
    same items is written identically and comes back as that plain dict: `c05_ordered_dict`) -/
def hasType : FTy → Val → Bool
  | .int, .int _ => true
  | .float, .float _ => true
  | .str, .str _ => true
  | .bool, .bool _ => true
  | .path, .path s => normPath s == s
  | .noneT, .none => true
  | .enum c ms, .enum c' n => c == c' && ms.contains n
  | .literal vals, v => litLeaf v && vals.any (fun l => pyEq l v)
  | .list t, .list xs => xs.all (hasType t)
  | .vtuple t, .tuple xs => xs.all (hasType t)
  | .set t, .set xs => xs.all (hasType t) && elemsDistinct xs
  | .tuple ts, .tuple xs => hasTypeL ts xs
  | .dict k v, .dict false ps => ps.all (fun p => hasType k p.1 && hasType v p.2) && keysDistinct ps
  | .union alts, v => hasTypeU alts v
  | .dc c reg fs, .inst c' reg' ifs => c == c' && reg == reg' && hasTypeF fs ifs
  | _, _ => false
def hasTypeL : List FTy → List Val → Bool
  | [], [] => true
  | t :: ts, x :: xs => hasType t x && hasTypeL ts xs
  | _, _ => false
def hasTypeU : List FTy → Val → Bool
  | [], _ => false
  | t :: ts, v => hasType t v || hasTypeU ts v
def hasTypeF : List (Str × FMeta × Option Val × FTy) → List (Str × FMeta × Val) → Bool
  | [], [] => true
  | (n, m, _, t) :: fs, (n', m', v) :: ifs => n == n' && m == m' && hasType t v && hasTypeF fs ifs
  | _, _ => false
end

def h0' : HEnv := fun _ v => .ok v

variable (henv : HEnv) (tr : Tr)

/-- what `from_dict` receives for `v`: `transport(encode(v))` -/
def wire (v : Val) : Out Val := (encode henv v).bind (transport tr)

def isNone : Val → Bool
  | .none => true
  | _ => false

mutual
/-- **UnionSafe**: at every Union node that has a non-primitive member, the first member whose decoder accepts the received value is a
    member the value is an instance of ("no earlier member's decoder accepts the encoded value of a
    later member").  Decidable: it is a boolean function that runs the decoders. -/
def unionSafe : FTy → Val → Bool
  | .list t, .list xs => xs.all (unionSafe t)
  | .vtuple t, .tuple xs => xs.all (unionSafe t)
  | .set t, .set xs => xs.all (unionSafe t)
  | .tuple ts, .tuple xs => unionSafeL ts xs
  | .dict _ v, .dict _ ps => ps.all (fun p => unionSafe v p.2)
  | .union alts, v =>
    if unionOfPrims alts then true     -- Unions of primitives need no side condition (decoding.py:361-371)
    else match wire henv tr v with
      | .ok r => unionSafeU (alts.any FTy.isNoneT) alts v r
      | _ => false
  | .dc _ _ fs, .inst _ _ ifs => unionSafeF fs ifs
  | _, _ => true
def unionSafeL : List FTy → List Val → Bool
  | t :: ts, x :: xs => unionSafe t x && unionSafeL ts xs
  | _, _ => true
/-- mirrors `decodeU` member by member -/
def unionSafeU (optional : Bool) : List FTy → Val → Val → Bool
  | [], _, _ => false
  | t :: ts, v, r =>
    if t.isNoneT then unionSafeU optional ts v r
    else if optional && isNone r then isNone v     -- `decode_optional` answers None
    else match decode henv t r with
      | .ok _ => hasType t v && unionSafe t v
      | .raise _ => unionSafeU optional ts v r
      | .unmodelled _ => false
def unionSafeF : List (Str × FMeta × Option Val × FTy) → List (Str × FMeta × Val) → Bool
  | (_, _, _, t) :: fs, (_, _, v) :: ifs => unionSafe t v && unionSafeF fs ifs
  | _, _ => true
end

/-! ### how values travel: `wire` on each constructor -/

/-- the received value (projection of `wire`) -/
def W (v : Val) : Val := match wire henv tr v with | .ok r => r | _ => .none
/-- the encoded value (projection of `encode`) -/
def E (v : Val) : Val := match encode henv v with | .ok e => e | _ => .none

section
variable {henv} {tr}

theorem wire_split {v r : Val} (h : wire henv tr v = .ok r) :
    encode henv v = .ok (E henv v) ∧ transport tr (E henv v) = .ok r := by
  obtain ⟨e, h1, h2⟩ := Out.bind_eq_ok h
  simp only [E, h1, h2, and_self]

theorem W_of_wire {v r : Val} (h : wire henv tr v = .ok r) : W henv tr v = r := by simp only [W, h]

theorem encodeL_eq (xs : List Val) : encodeL henv xs = mapOut (encode henv) xs := by
  induction xs with
  | nil => rfl
  | cons x xs ih => rw [mapOut_cons, ← ih]; rfl

theorem jsonTrL_eq (xs : List Val) : jsonTrL xs = mapOut jsonTr xs := by
  induction xs with
  | nil => rfl
  | cons x xs ih => rw [mapOut_cons, ← ih]; rfl

theorem isPrimL_map {α : Type} (xs : List α) (e : α → Val) (h : ∀ x ∈ xs, isPrim (e x) = true) :
    isPrimL (xs.map e) = true := by
  induction xs with
  | nil => rfl
  | cons x xs ih =>
    obtain ⟨hx, hxs⟩ := List.forall_mem_cons.mp h
    exact Bool.and_eq_true_iff.mpr ⟨hx, ih hxs⟩

theorem yamlTr_ok {e r : Val} (h : yamlTr e = .ok r) : isPrim e = true ∧ r = e := by
  unfold yamlTr at h
  by_cases hp : isPrim e = true
  · rw [if_pos hp] at h
    exact ⟨hp, (Out.ok.inj h).symm⟩
  · rw [if_neg hp] at h
    split at h <;> cases h

/-- transports act element-wise on lists -/
theorem transport_list {α : Type} (xs : List α) (e w : α → Val)
    (h : ∀ x ∈ xs, transport tr (e x) = .ok (w x)) :
    transport tr (.list (xs.map e)) = .ok (.list (xs.map w)) := by
  cases tr with
  | id =>
    rw [List.map_congr_left fun x hx => Out.ok.inj (h x hx)]
    rfl
  | json =>
    have hl := (jsonTrL_eq (xs.map e)).trans (mapOut_map_ok jsonTr e w xs h)
    simp only [transport, jsonTr, hl, Out.ok_bind]
  | yaml =>
    have hp := fun x hx => yamlTr_ok (h x hx)
    rw [List.map_congr_left fun x hx => (hp x hx).2]
    exact if_pos (isPrimL_map xs e fun x hx => (hp x hx).1)

theorem wire_listlike (xs : List Val) (h : ∀ x ∈ xs, wire henv tr x = .ok (W henv tr x)) :
    wire henv tr (.list xs) = .ok (.list (xs.map (W henv tr))) ∧
    wire henv tr (.tuple xs) = .ok (.list (xs.map (W henv tr))) ∧
    wire henv tr (.set xs) = .ok (.list (xs.map (W henv tr))) := by
  have he : encodeL henv xs = .ok (xs.map (E henv)) := by
    have := mapOut_map_ok (encode henv) id (E henv) xs fun x hx => (wire_split (h x hx)).1
    rwa [List.map_id, ← encodeL_eq] at this
  have ht := transport_list xs (E henv) (W henv tr) fun x hx => (wire_split (h x hx)).2
  refine ⟨?_, ?_, ?_⟩ <;> simp only [wire, encode, he, Out.ok_bind, ht]

/-! ### dicts on the wire -/

/-- the text json.dumps writes for a key (projection of `jsonKey`) -/
def jks (k : Val) : Str := match jsonKey k with | .ok s => s | _ => []

/-- the key as received: JSON stringifies it, the other transports keep it -/
def rk : Tr → Val → Val
  | .json, k => .str (jks k)
  | _, k => k

theorem jsonKey_leaf (k : Val) (h : isPrimLeaf k = true) : jsonKey k = .ok (jks k) := by
  cases k with
  | none | bool _ | int _ | float _ | str _ => rfl
  | _ => contradiction

theorem jsonTrP_map {α : Type} (xs : List α) (k e w : α → Val)
    (hk : ∀ x ∈ xs, isPrimLeaf (k x) = true) (hv : ∀ x ∈ xs, jsonTr (e x) = .ok (w x)) :
    jsonTrP (xs.map fun x => (k x, e x)) = .ok (xs.map fun x => (Val.str (jks (k x)), w x)) := by
  induction xs with
  | nil => rfl
  | cons x xs ih =>
    obtain ⟨hkx, hk⟩ := List.forall_mem_cons.mp hk
    obtain ⟨hvx, hv⟩ := List.forall_mem_cons.mp hv
    simp only [List.map_cons, jsonTrP, jsonKey_leaf _ hkx, hvx, Out.ok_bind, ih hk hv]

theorem isPrimP_map {α : Type} (xs : List α) (k e : α → Val) (hk : ∀ x ∈ xs, isPrimLeaf (k x) = true)
    (hv : ∀ x ∈ xs, isPrim (e x) = true) : isPrimP (xs.map fun x => (k x, e x)) = true := by
  induction xs with
  | nil => rfl
  | cons x xs ih =>
    obtain ⟨hkx, hk⟩ := List.forall_mem_cons.mp hk
    obtain ⟨hvx, hv⟩ := List.forall_mem_cons.mp hv
    simp only [List.map_cons, isPrimP, hkx, hvx, ih hk hv, Bool.and_self]

/-- a dict with primitive-leaf keys travels entry by entry; keys as `rk` says -/
theorem transport_dict {α : Type} (xs : List α) (k e w : α → Val)
    (hk : ∀ x ∈ xs, isPrimLeaf (k x) = true) (hv : ∀ x ∈ xs, transport tr (e x) = .ok (w x))
    (hd : keysDistinct (xs.map fun x => (rk tr (k x), w x)) = true) :
    transport tr (.dict false (xs.map fun x => (k x, e x))) =
      .ok (.dict false (xs.map fun x => (rk tr (k x), w x))) := by
  cases tr with
  | id =>
    rw [List.map_congr_left fun x hx => congrArg (Prod.mk (k x)) (Out.ok.inj (hv x hx))]
    rfl
  | json =>
    have hd' : keysDistinct (xs.map fun x => (Val.str (jks (k x)), w x)) = true := hd
    simp only [transport, jsonTr, jsonTrP_map xs k e w hk hv, Out.ok_bind]
    rw [foldl_dictInsert_distinct _ [] (distinctFrom_nil _ hd')]
    rfl
  | yaml =>
    have hp := fun x hx => yamlTr_ok (hv x hx)
    have : (xs.map fun x => (rk Tr.yaml (k x), w x)) = xs.map fun x => (k x, e x) :=
      List.map_congr_left fun x hx => congrArg (Prod.mk (k x)) (hp x hx).2
    rw [this]
    exact if_pos (isPrimP_map xs k e hk fun x hx => (hp x hx).1)

/-! ### instances on the wire: field names as keys -/

theorem pyEq_str (a b : Str) : pyEq (.str a) (.str b) = (a == b) := rfl

theorem keysDistinct_strmap (ifs : List (Str × FMeta × Val)) (h : Str × FMeta × Val → Val)
    (hd : (ifs.map (·.1)).Nodup) : keysDistinct (ifs.map fun f => (Val.str f.1, h f)) = true := by
  induction ifs with
  | nil => rfl
  | cons f fs ih =>
    obtain ⟨hf, hd⟩ := List.nodup_cons.mp hd
    refine Bool.and_eq_true_iff.mpr ⟨List.all_eq_true.mpr ?_, ih hd⟩
    intro p hp
    obtain ⟨g, hg, rfl⟩ := List.mem_map.mp hp
    have hne : f.1 ≠ g.1 := fun e => hf (List.mem_map.mpr ⟨g, hg, e.symm⟩)
    simpa [pyEq_str] using hne

theorem lookup_strmap (ifs : List (Str × FMeta × Val)) (h : Str × FMeta × Val → Val)
    (hd : (ifs.map (·.1)).Nodup) (f : Str × FMeta × Val) (hf : f ∈ ifs) :
    lookupKey (.str f.1) (ifs.map fun f => (Val.str f.1, h f)) = some (h f) := by
  induction ifs with
  | nil => cases hf
  | cons g gs ih =>
    obtain ⟨hg, hd⟩ := List.nodup_cons.mp hd
    simp only [List.map_cons, lookupKey, pyEq_str]
    rcases List.mem_cons.mp hf with rfl | hf'
    · simp only [beq_self_eq_true, ↓reduceIte]
    · have hne : g.1 ≠ f.1 := fun e => hg (List.mem_map.mpr ⟨f, hf', e.symm⟩)
      simp only [beq_eq_false_iff_ne.mpr hne, Bool.false_eq_true, ↓reduceIte]
      exact ih hd hf'

theorem lookup_none_strmap (ifs : List (Str × FMeta × Val)) (h : Str × FMeta × Val → Val) (n : Str)
    (hn : n ∉ ifs.map (·.1)) : lookupKey (.str n) (ifs.map fun f => (Val.str f.1, h f)) = none := by
  induction ifs with
  | nil => rfl
  | cons g gs ih =>
    have hg : g.1 ≠ n := fun e => hn (List.mem_cons.mpr (Or.inl e.symm))
    simp only [List.map_cons, lookupKey, pyEq_str, beq_eq_false_iff_ne.mpr hg, Bool.false_eq_true, ↓reduceIte]
    exact ih fun h => hn (List.mem_cons_of_mem _ h)

theorem wfF_cons {n m d t fs} (h : wfF ((n, m, d, t) :: fs) = true) :
    m.toDict = true ∧ m.enc = none ∧ m.dec = none ∧ wf t = true ∧ n ≠ DC_TYPE_KEY ∧ (∀ f ∈ fs, f.1 ≠ n) ∧
      wfF fs = true := by
  simpa only [wfF, Bool.and_eq_true, Option.isNone_iff_eq_none, List.all_eq_true, Bool.not_eq_eq_eq_not,
    Bool.not_true, beq_eq_false_iff_ne, and_assoc] using h

theorem hasTypeF_cons {n m d t fs n' m' v ifs} (h : hasTypeF ((n, m, d, t) :: fs) ((n', m', v) :: ifs) = true) :
    n = n' ∧ m = m' ∧ hasType t v = true ∧ hasTypeF fs ifs = true := by
  simpa only [hasTypeF, Bool.and_eq_true, beq_iff_eq, and_assoc] using h

theorem hasTypeF_names {fs : List (Str × FMeta × Option Val × FTy)} {ifs : List (Str × FMeta × Val)}
    (h : hasTypeF fs ifs = true) : ifs.map (·.1) = fs.map (·.1) := by
  induction fs generalizing ifs with
  | nil =>
    cases ifs with
    | nil => rfl
    | cons _ _ => cases h
  | cons f fs ih =>
    cases ifs with
    | nil => cases h
    | cons g ifs =>
      obtain ⟨hn, _, _, h2⟩ := hasTypeF_cons h
      rw [List.map_cons, List.map_cons, ih h2, hn]

theorem wfF_names {fs : List (Str × FMeta × Option Val × FTy)} (hw : wfF fs = true) :
    (fs.map (·.1)).Nodup ∧ DC_TYPE_KEY ∉ fs.map (·.1) := by
  induction fs with
  | nil => exact ⟨List.nodup_nil, List.not_mem_nil⟩
  | cons f fs ih =>
    obtain ⟨_, _, _, _, hn, hall, hr⟩ := wfF_cons hw
    obtain ⟨h1, h2⟩ := ih hr
    refine ⟨List.nodup_cons.mpr ⟨fun hmem => ?_, h1⟩, fun h => (List.mem_cons.mp h).elim (fun e => hn e.symm) h2⟩
    obtain ⟨g, hg, e⟩ := List.mem_map.mp hmem
    exact hall g hg e

theorem hasType_int {v} (h : hasType .int v = true) : ∃ n, v = .int n := by
  cases v with
  | int n => exact ⟨n, rfl⟩
  | _ => contradiction

theorem hasType_float {v} (h : hasType .float v = true) : ∃ r, v = .float r := by
  cases v with
  | float r => exact ⟨r, rfl⟩
  | _ => contradiction

theorem hasType_str {v} (h : hasType .str v = true) : ∃ s, v = .str s := by
  cases v with
  | str s => exact ⟨s, rfl⟩
  | _ => contradiction

theorem hasType_bool {v} (h : hasType .bool v = true) : ∃ b, v = .bool b := by
  cases v with
  | bool b => exact ⟨b, rfl⟩
  | _ => contradiction

theorem hasType_path {v} (h : hasType .path v = true) : ∃ s, v = .path s ∧ normPath s = s := by
  cases v with
  | path s => exact ⟨s, rfl, eq_of_beq h⟩
  | _ => contradiction

theorem hasType_noneT {v} (h : hasType .noneT v = true) : v = .none := by
  cases v with
  | none => rfl
  | _ => contradiction

theorem hasType_enum {c ms v} (h : hasType (.enum c ms) v = true) :
    ∃ n, v = .enum c n ∧ ms.contains n = true := by
  cases v with
  | enum c' n =>
    obtain ⟨hc, hn⟩ := Bool.and_eq_true_iff.mp h
    cases eq_of_beq hc
    exact ⟨n, rfl, hn⟩
  | _ => contradiction

theorem hasType_list {t v} (h : hasType (.list t) v = true) :
    ∃ xs, v = .list xs ∧ ∀ x ∈ xs, hasType t x = true := by
  cases v with
  | list xs => exact ⟨xs, rfl, List.all_eq_true.mp h⟩
  | _ => contradiction

theorem hasType_vtuple {t v} (h : hasType (.vtuple t) v = true) :
    ∃ xs, v = .tuple xs ∧ ∀ x ∈ xs, hasType t x = true := by
  cases v with
  | tuple xs => exact ⟨xs, rfl, List.all_eq_true.mp h⟩
  | _ => contradiction

theorem hasType_set {t v} (h : hasType (.set t) v = true) :
    ∃ xs, v = .set xs ∧ (∀ x ∈ xs, hasType t x = true) ∧ elemsDistinct xs = true := by
  cases v with
  | set xs =>
    obtain ⟨h1, h2⟩ := Bool.and_eq_true_iff.mp h
    exact ⟨xs, rfl, List.all_eq_true.mp h1, h2⟩
  | _ => contradiction

theorem hasType_tuple {ts v} (h : hasType (.tuple ts) v = true) :
    ∃ xs, v = .tuple xs ∧ hasTypeL ts xs = true := by
  cases v with
  | tuple xs => exact ⟨xs, rfl, h⟩
  | _ => contradiction

theorem hasType_dict {k vt v} (h : hasType (.dict k vt) v = true) :
    ∃ ps, v = .dict false ps ∧ (∀ p ∈ ps, hasType k p.1 = true ∧ hasType vt p.2 = true) ∧
      keysDistinct ps = true := by
  cases v with
  | dict o ps =>
    cases o with
    | true => cases h
    | false =>
      obtain ⟨h1, h2⟩ := Bool.and_eq_true_iff.mp h
      exact ⟨ps, rfl, fun p hp => Bool.and_eq_true_iff.mp (List.all_eq_true.mp h1 p hp), h2⟩
  | _ => contradiction

theorem hasType_dc {c reg fs v}
    (h : hasType (.dc c reg fs) v = true) : ∃ ifs, v = .inst c reg ifs ∧ hasTypeF fs ifs = true := by
  cases v with
  | inst c' reg' ifs =>
    obtain ⟨h1, hf⟩ := Bool.and_eq_true_iff.mp h
    obtain ⟨hc, hr⟩ := Bool.and_eq_true_iff.mp h1
    cases eq_of_beq hc
    cases eq_of_beq hr
    exact ⟨ifs, rfl, hf⟩
  | _ => contradiction

/-! ### dict keys and set elements -/

/-- `encode` on a key -/
def encKey : Val → Val
  | .enum _ n => .str n
  | .path s => .str s
  | k => k

theorem key_encode (henv : HEnv) {K : FTy} {k : Val} (hK : keyTy K = true) (hk : hasType K k = true) :
    encode henv k = .ok (encKey k) ∧ isPrimLeaf (encKey k) = true ∧ hashable (encKey k) = true ∧
    hashable k = true := by
  cases K with
  | int => obtain ⟨n, rfl⟩ := hasType_int hk; exact ⟨rfl, rfl, rfl, rfl⟩
  | str => obtain ⟨s, rfl⟩ := hasType_str hk; exact ⟨rfl, rfl, rfl, rfl⟩
  | bool => obtain ⟨b, rfl⟩ := hasType_bool hk; exact ⟨rfl, rfl, rfl, rfl⟩
  | path => obtain ⟨s, rfl, _⟩ := hasType_path hk; exact ⟨rfl, rfl, rfl, rfl⟩
  | enum c ms => obtain ⟨n, rfl, _⟩ := hasType_enum hk; exact ⟨rfl, rfl, rfl, rfl⟩
  | _ => contradiction

/-- json.dumps writes a bool key as a word that `_decode_bool` reads back -/
theorem str2bool_jks (b : Bool) : str2bool (jks (.bool b)) = some b := by
  cases b <;> decide +kernel

theorem key_decode {K : FTy} {k : Val} (hK : keyTy K = true) (hk : hasType K k = true) :
    decode henv K (rk tr (encKey k)) = .ok k := by
  cases K with
  | int =>
    obtain ⟨n, rfl⟩ := hasType_int hk
    cases tr
    · rfl
    · exact decodeInt_str_showInt n
    · rfl
  | str => obtain ⟨s, rfl⟩ := hasType_str hk; cases tr <;> rfl
  | bool =>
    obtain ⟨b, rfl⟩ := hasType_bool hk
    cases tr
    · rfl
    · simp only [rk, encKey, decode_bool, decodeBool, str2bool_jks]
    · rfl
  | path =>
    obtain ⟨s, rfl, hs⟩ := hasType_path hk
    have : decode henv .path (.str s) = .ok (.path s) := by rw [decode_path, decodePath_str, hs]
    cases tr <;> exact this
  | enum c ms =>
    obtain ⟨n, rfl, hn⟩ := hasType_enum hk
    have := decodeEnum_ok c ms n hn
    cases tr <;> exact this
  | _ => contradiction

theorem rk_distinct {a b : Val} (h : pyEq a b = false) (hj : jks a ≠ jks b) :
    pyEq (rk tr a) (rk tr b) = false := by
  cases tr with
  | json => exact beq_eq_false_iff_ne.mpr hj
  | _ => exact h

theorem key_distinct {K : FTy} {k k' : Val} (hK : keyTy K = true) (hk : hasType K k = true)
    (hk' : hasType K k' = true) (hne : pyEq k k' = false) :
    pyEq (rk tr (encKey k)) (rk tr (encKey k')) = false := by
  cases K with
  | int =>
    obtain ⟨n, rfl⟩ := hasType_int hk
    obtain ⟨n', rfl⟩ := hasType_int hk'
    exact rk_distinct hne fun e => beq_eq_false_iff_ne.mp hne (showInt_injective e)
  | str =>
    obtain ⟨s, rfl⟩ := hasType_str hk
    obtain ⟨s', rfl⟩ := hasType_str hk'
    exact rk_distinct hne (beq_eq_false_iff_ne.mp hne)
  | bool =>
    obtain ⟨b, rfl⟩ := hasType_bool hk
    obtain ⟨b', rfl⟩ := hasType_bool hk'
    refine rk_distinct hne fun e => beq_eq_false_iff_ne.mp hne (Option.some.inj ?_)
    exact (str2bool_jks b).symm.trans ((congrArg str2bool e).trans (str2bool_jks b'))
  | path =>
    obtain ⟨s, rfl, _⟩ := hasType_path hk
    obtain ⟨s', rfl, _⟩ := hasType_path hk'
    exact rk_distinct hne (beq_eq_false_iff_ne.mp hne)
  | enum c ms =>
    obtain ⟨n, rfl, _⟩ := hasType_enum hk
    obtain ⟨n', rfl, _⟩ := hasType_enum hk'
    have hn : (c == c && n == n') = false := hne
    rw [beq_self_eq_true, Bool.true_and] at hn
    exact rk_distinct hn (beq_eq_false_iff_ne.mp hn)
  | _ => contradiction

theorem keysDistinct_map {K : FTy} {ps : List (Val × Val)} (f : Val → Val) (g : Val × Val → Val)
    (hty : ∀ p ∈ ps, hasType K p.1 = true)
    (hf : ∀ k k', hasType K k = true → hasType K k' = true → pyEq k k' = false → pyEq (f k) (f k') = false)
    (hd : keysDistinct ps = true) : keysDistinct (ps.map fun p => (f p.1, g p)) = true := by
  induction ps with
  | nil => rfl
  | cons p ps ih =>
    obtain ⟨hp, hty⟩ := List.forall_mem_cons.mp hty
    obtain ⟨hd0, hd⟩ := Bool.and_eq_true_iff.mp hd
    refine Bool.and_eq_true_iff.mpr ⟨List.all_eq_true.mpr ?_, ih hty hd⟩
    intro q hq
    obtain ⟨q0, hq0, rfl⟩ := List.mem_map.mp hq
    have := List.all_eq_true.mp hd0 q0 hq0
    simp only [Bool.not_eq_eq_eq_not, Bool.not_true] at this ⊢
    exact hf p.1 q0.1 hp (hty q0 hq0) this

theorem encodeP_keys {K : FTy} {ps : List (Val × Val)} (hK : keyTy K = true)
    (hty : ∀ p ∈ ps, hasType K p.1 = true) (hv : ∀ p ∈ ps, encode henv p.2 = .ok (E henv p.2)) :
    encodeP henv ps = .ok (ps.map fun p => (encKey p.1, E henv p.2)) := by
  induction ps with
  | nil => rfl
  | cons p ps ih =>
    obtain ⟨k, v⟩ := p
    obtain ⟨hp, hty⟩ := List.forall_mem_cons.mp hty
    obtain ⟨hvp, hv⟩ := List.forall_mem_cons.mp hv
    simp only [encodeP, (key_encode henv hK hp).1, hvp, Out.ok_bind, List.map_cons, ih hty hv]

theorem encDictFold_distinct (qs acc : List (Val × Val)) (hh : ∀ q ∈ qs, hashable q.1 = true)
    (hd : distinctFrom acc qs) : encDictFold (.dict acc) qs = .ok (.dict (acc ++ qs)) := by
  induction qs generalizing acc with
  | nil => simp [encDictFold]
  | cons q qs ih =>
    obtain ⟨k, v⟩ := q
    obtain ⟨hq, hh⟩ := List.forall_mem_cons.mp hh
    obtain ⟨h1, h2⟩ := distinctFrom_step hd
    simp only [encDictFold, encDictStep, hq, ↓reduceIte, Out.ok_bind]
    rw [dictInsert_fresh k v acc h1, ih _ hh h2, List.append_assoc]
    rfl

theorem decodeItems_distinct (dk dv : Val → Out Val) (f : Val → Val) (g : Val → Val) (ps acc : List (Val × Val))
    (hk : ∀ p ∈ ps, dk (f p.1) = .ok p.1 ∧ hashable p.1 = true) (hv : ∀ p ∈ ps, dv (g p.2) = .ok p.2)
    (hd : distinctFrom acc ps) :
    decodeItems dk dv ((ps.map fun p => (f p.1, g p.2)).map fun (k, v) => Val.tuple [k, v]) acc =
      .ok (acc ++ ps) := by
  induction ps generalizing acc with
  | nil => simp [decodeItems]
  | cons p ps ih =>
    obtain ⟨k, v⟩ := p
    obtain ⟨hkp, hk⟩ := List.forall_mem_cons.mp hk
    obtain ⟨hvp, hv⟩ := List.forall_mem_cons.mp hv
    obtain ⟨h1, h2⟩ := distinctFrom_step hd
    simp only [List.map_cons, decodeItems, unpackPair, Out.ok_bind, hkp.1, hvp, hkp.2, ↓reduceIte]
    rw [dictInsert_fresh k v acc h1, ih _ hk hv h2, List.append_assoc]
    rfl

theorem hashableL_iff (xs : List Val) : hashableL xs = true ↔ ∀ x ∈ xs, hashable x = true := by
  induction xs with
  | nil => simp [hashableL]
  | cons x xs ih => simp [hashableL, ih]

mutual
theorem hashable_of_hashTy (t : FTy) (v : Val) (h : hashTy t = true) (ht : hasType t v = true) :
    hashable v = true := by
  cases t with
  | int => obtain ⟨_, rfl⟩ := hasType_int ht; rfl
  | float => obtain ⟨_, rfl⟩ := hasType_float ht; rfl
  | str => obtain ⟨_, rfl⟩ := hasType_str ht; rfl
  | bool => obtain ⟨_, rfl⟩ := hasType_bool ht; rfl
  | path => obtain ⟨_, rfl, _⟩ := hasType_path ht; rfl
  | enum _ _ => obtain ⟨_, rfl, _⟩ := hasType_enum ht; rfl
  | vtuple t =>
    obtain ⟨xs, rfl, hx⟩ := hasType_vtuple ht
    exact (hashableL_iff xs).mpr fun x hx' => hashable_of_hashTy t x h (hx x hx')
  | tuple ts =>
    obtain ⟨xs, rfl, hx⟩ := hasType_tuple ht
    exact hashableL_of_hashTyL ts xs h hx
  | _ => contradiction
theorem hashableL_of_hashTyL (ts : List FTy) (xs : List Val) (h : hashTyL ts = true) (ht : hasTypeL ts xs = true) :
    hashableL xs = true := by
  cases ts with
  | nil =>
    cases xs with
    | nil => rfl
    | cons _ _ => cases ht
  | cons t ts =>
    cases xs with
    | nil => cases ht
    | cons x xs =>
      obtain ⟨h1, h2⟩ := Bool.and_eq_true_iff.mp h
      obtain ⟨ht1, ht2⟩ := Bool.and_eq_true_iff.mp ht
      exact Bool.and_eq_true_iff.mpr ⟨hashable_of_hashTy t x h1 ht1, hashableL_of_hashTyL ts xs h2 ht2⟩
end

theorem setOfList_distinct (xs acc : List Val) (h1 : ∀ a ∈ acc, ∀ x ∈ xs, pyEq a x = false)
    (h2 : elemsDistinct xs = true) : setOfList acc xs = acc ++ xs := by
  induction xs generalizing acc with
  | nil => simp [setOfList]
  | cons x xs ih =>
    simp only [elemsDistinct, Bool.and_eq_true, List.all_eq_true, Bool.not_eq_eq_eq_not, Bool.not_true] at h2
    have hno : acc.any (fun y => pyEq y x) = false := by
      simp only [List.any_eq_false]
      intro a ha
      simp [h1 a ha x (by simp)]
    simp only [setOfList, hno, Bool.false_eq_true, ↓reduceIte]
    rw [ih (acc ++ [x]) ?_ h2.2]
    · simp
    · intro a ha y hy
      rcases List.mem_append.mp ha with ha | ha
      · exact h1 a ha y (by simp [hy])
      · simp only [List.mem_singleton] at ha
        subst ha
        exact h2.1 y hy

end

/-! ### the round trip -/

/-- the round-trip statement at one node: the writer/reader pair succeeds and decoding gives `v` back -/
def RT (t : FTy) (v : Val) : Prop :=
  wire henv tr v = .ok (W henv tr v) ∧ decode henv t (W henv tr v) = .ok v

/-- `to_dict` of a nested instance (serializable.py:760-763) agrees with `encode` of it (what a container
    applies to its items) — carried through the induction for the fields that hold instances -/
def TD (v : Val) : Prop := ∀ c r ifs, v = Val.inst c r ifs → toDictF henv ifs = encode henv v

section
variable {henv} {tr}

theorem RT_of {t : FTy} {v r : Val} (h : wire henv tr v = .ok r) (hd : decode henv t r = .ok v) :
    RT henv tr t v := by
  unfold RT
  rw [W_of_wire h]
  exact ⟨h, hd⟩

theorem wire_leaf (v : Val) (h : isPrimLeaf v = true) : wire henv tr v = .ok v := by
  cases v with
  | none | bool _ | int _ | float _ | str _ => cases tr <;> rfl
  | _ => contradiction

theorem wire_path (s : Str) : wire henv tr (.path s) = .ok (.str s) := by cases tr <;> rfl

theorem wire_enum (c n : Str) : wire henv tr (.enum c n) = .ok (.str n) := by cases tr <;> rfl

theorem rt_leaf {t : FTy} {v : Val} (h : isPrimLeaf v = true) (hd : decode henv t v = .ok v) :
    RT henv tr t v ∧ TD henv v :=
  ⟨RT_of (wire_leaf v h) hd, fun _ _ _ e => by subst e; cases h⟩

theorem litLeaf_primLeaf {v : Val} (h : litLeaf v = true) : isPrimLeaf v = true := by
  cases v with
  | str _ | int _ | bool _ => rfl
  | _ => contradiction

theorem decodeLiteral_ok {vals : List Val} {v : Val} (hl : litLeaf v = true)
    (hm : vals.any (fun l => pyEq l v) = true) : decodeLiteral vals v = .ok v := by
  cases v with
  | str _ | int _ | bool _ => simp only [decodeLiteral, hm, ↓reduceIte]
  | _ => contradiction

theorem mapOut_decode {t : FTy} {xs : List Val} (h : ∀ x ∈ xs, RT henv tr t x) :
    mapOut (decode henv t) (xs.map (W henv tr)) = .ok xs := by
  have := mapOut_map_ok (decode henv t) (W henv tr) id xs fun x hx => (h x hx).2
  rwa [List.map_id] at this

theorem isNone_eq {v : Val} (h : isNone v = true) : v = .none := by
  cases v with
  | none => rfl
  | _ => contradiction

theorem decodeOptional_none (d : Val → Out Val) : decodeOptional true d .none = .ok .none := rfl

theorem decodeOptional_other {optional : Bool} {r : Val} (h : (optional && isNone r) = false)
    (d : Val → Out Val) : decodeOptional optional d r = d r := by
  unfold decodeOptional
  split
  · cases h
  · rfl

/-- `htd`: a field holding an instance goes through `to_dict` itself, the others through `encode` -/
theorem toDictL_cons {n : Str} {m : FMeta} {v : Val} (fs : List (Str × FMeta × Val))
    (hd : m.toDict = true) (he : m.enc = none) (hev : encode henv v = .ok (E henv v)) (htd : TD henv v) :
    toDictL henv ((n, m, v) :: fs) = (toDictL henv fs).bind fun qs => .ok ((Val.str n, E henv v) :: qs) := by
  rw [toDictL.eq_def]
  simp only [hd, Bool.not_true, Bool.false_eq_true, ↓reduceIte, he]
  split
  · next c r ifs =>
    have := htd c r ifs rfl
    unfold toDictF at this
    rw [this, hev]; rfl
  · rw [hev]; rfl

theorem rt_dict {k vt : FTy} {ps : List (Val × Val)} (hk : keyTy k = true)
    (hty : ∀ p ∈ ps, hasType k p.1 = true) (hdist : keysDistinct ps = true)
    (ih : ∀ p ∈ ps, RT henv tr vt p.2) : RT henv tr (.dict k vt) (.dict false ps) := by
  have hencP := encodeP_keys hk hty fun p hp => (wire_split (ih p hp).1).1
  have hfold := encDictFold_distinct (ps.map fun p => (encKey p.1, E henv p.2)) []
    (List.forall_mem_map.mpr fun p hp => (key_encode henv hk (hty p hp)).2.2.1)
    (distinctFrom_nil _ (keysDistinct_map encKey _ hty
      (fun _ _ => key_distinct (tr := .id) hk) hdist))
  have htr := transport_dict ps (fun p => encKey p.1) (fun p => E henv p.2) (fun p => W henv tr p.2)
    (fun p hp => (key_encode henv hk (hty p hp)).2.1) (fun p hp => (wire_split (ih p hp).1).2)
    (keysDistinct_map (fun a => rk tr (encKey a)) _ hty
      (fun _ _ => key_distinct hk) hdist)
  have hwire : wire henv tr (.dict false ps) =
      .ok (.dict false (ps.map fun p => (rk tr (encKey p.1), W henv tr p.2))) := by
    simp only [wire, encode, hencP, Out.ok_bind, hfold, List.nil_append, DAcc.toVal, htr]
  have hdec := decodeItems_distinct (decode henv k) (decode henv vt) (fun a => rk tr (encKey a)) (W henv tr) ps []
    (fun p hp => ⟨key_decode hk (hty p hp), (key_encode henv hk (hty p hp)).2.2.2⟩)
    (fun p hp => (ih p hp).2) (distinctFrom_nil ps hdist)
  refine RT_of hwire ?_
  rw [decode_dict]
  simp only [dictItems, Out.ok_bind, hdec, List.nil_append]

theorem rt_dc {c : Str} {reg : Bool} {fs ifs}
    (hw : wfF fs = true) (ht : hasTypeF fs ifs = true)
    (hwire : ∀ f ∈ ifs, wire henv tr f.2.2 = .ok (W henv tr f.2.2))
    (htd : toDictL henv ifs = .ok (ifs.map fun f => (Val.str f.1, E henv f.2.2)))
    (hdec : ∀ d, (∀ f ∈ ifs, lookupKey (.str f.1) d = some (W henv tr f.2.2)) →
      decodeFields henv d fs false = .ok ifs) :
    RT henv tr (.dc c reg fs) (.inst c reg ifs) ∧ TD henv (.inst c reg ifs) := by
  obtain ⟨hnd, hnt⟩ := wfF_names hw
  rw [← hasTypeF_names ht] at hnd hnt
  have henc : encode henv (.inst c reg ifs) = .ok (.dict false (ifs.map fun f => (Val.str f.1, E henv f.2.2))) := by
    simp only [encode, htd, Out.ok_bind]
  -- a str key is received as it is on every transport
  have hrk : (fun f : Str × FMeta × Val => (rk tr (Val.str f.1), W henv tr f.2.2)) =
      fun f => (Val.str f.1, W henv tr f.2.2) := by cases tr <;> rfl
  have htr := transport_dict ifs (fun f => Val.str f.1) (fun f => E henv f.2.2) (fun f => W henv tr f.2.2)
    (fun _ _ => rfl) (fun f hf => (wire_split (hwire f hf)).2)
    (by rw [hrk]; exact keysDistinct_strmap ifs _ hnd)
  rw [hrk] at htr
  have hw' : wire henv tr (.inst c reg ifs) = .ok (.dict false (ifs.map fun f => (Val.str f.1, W henv tr f.2.2))) := by
    simp only [wire, henc, Out.ok_bind, htr]
  refine ⟨RT_of hw' ?_, ?_⟩
  · rw [decode_dc]
    simp only [fromDictWith, lookup_none_strmap ifs _ DC_TYPE_KEY hnt, Option.isSome_none, Bool.false_eq_true,
      ↓reduceIte, hdec _ (lookup_strmap ifs (fun f => W henv tr f.2.2) hnd), Out.ok_bind]
  · intro c2 r2 ifs2 he
    cases he
    simp only [henc, toDictF, htd, Out.ok_bind]

/-! ### Unions of primitives (decoding.py:361-371) -/

theorem primMember_none (t : FTy) : primMember .none t = false := by cases t <;> rfl

theorem decodeU_none (alts : List FTy) : decodeU henv true alts .none = .ok .none := by
  induction alts with
  | nil => rfl
  | cons t ts ih =>
    unfold decodeU
    by_cases hn : t.isNoneT = true
    · simp only [hn, ↓reduceIte]; exact ih
    · simp only [hn, Bool.false_eq_true, ↓reduceIte, decodeOptional_none]

theorem unionOfPrims_mem {alts : List FTy} (hp : unionOfPrims alts = true) :
    ∀ t ∈ alts, t.isNoneT = true ∨ t.isPrimTy = true := by
  intro t ht
  simp only [unionOfPrims, Bool.and_eq_true, List.all_eq_true, List.mem_filter, Bool.not_eq_eq_eq_not, Bool.not_true,
    and_imp] at hp
  by_cases hn : t.isNoneT = true
  · exact Or.inl hn
  · exact Or.inr (hp.2 t ht (by simpa using hn))

theorem hasType_prim {t v} (hp : t.isPrimTy = true) (h : hasType t v = true) :
    isPrimLeaf v = true ∧ primMember v t = true := by
  cases t with
  | bool => obtain ⟨_, rfl⟩ := hasType_bool h; exact ⟨rfl, rfl⟩
  | int => obtain ⟨_, rfl⟩ := hasType_int h; exact ⟨rfl, rfl⟩
  | float => obtain ⟨_, rfl⟩ := hasType_float h; exact ⟨rfl, rfl⟩
  | str => obtain ⟨_, rfl⟩ := hasType_str h; exact ⟨rfl, rfl⟩
  | _ => contradiction

/-- a value of a Union of primitives is None (and the Union is Optional) or a primitive whose exact type is a member -/
theorem hasTypeU_prims {alts : List FTy} {v : Val} (hall : ∀ t ∈ alts, t.isNoneT = true ∨ t.isPrimTy = true)
    (ht : hasTypeU alts v = true) :
    (v = .none ∧ alts.any FTy.isNoneT = true) ∨ (isPrimLeaf v = true ∧ alts.any (primMember v) = true) := by
  induction alts with
  | nil => cases ht
  | cons t ts ih =>
    obtain ⟨h0, hall⟩ := List.forall_mem_cons.mp hall
    simp only [List.any_cons, Bool.or_eq_true]
    rcases Bool.or_eq_true_iff.mp ht with h | h
    · rcases h0 with hn | hp
      · cases t with
        | noneT => exact Or.inl ⟨hasType_noneT h, Or.inl rfl⟩
        | _ => contradiction
      · exact Or.inr ⟨(hasType_prim hp h).1, Or.inl (hasType_prim hp h).2⟩
    · rcases ih hall h with ⟨h1, h2⟩ | ⟨h1, h2⟩
      · exact Or.inl ⟨h1, Or.inr h2⟩
      · exact Or.inr ⟨h1, Or.inr h2⟩

theorem decode_union_prims {alts : List FTy} {v : Val} (hp : unionOfPrims alts = true)
    (ht : hasTypeU alts v = true) : isPrimLeaf v = true ∧ decode henv (.union alts) v = .ok v := by
  rcases hasTypeU_prims (unionOfPrims_mem hp) ht with ⟨rfl, hopt⟩ | ⟨hleaf, hmem⟩
  · refine ⟨rfl, ?_⟩
    have hno : alts.any (primMember .none) = false :=
      List.any_eq_false.mpr fun t _ => by rw [primMember_none]; exact Bool.false_ne_true
    simp only [decode_union, hno, Bool.and_false, Bool.false_eq_true, ↓reduceIte, hopt]
    exact decodeU_none alts
  · refine ⟨hleaf, ?_⟩
    simp only [decode_union, hp, hmem, Bool.and_self, ↓reduceIte]

end

mutual
theorem rt (t : FTy) (v : Val) (hw : wf t = true) (ht : hasType t v = true)
    (hs : unionSafe henv tr t v = true) : RT henv tr t v ∧ TD henv v := by
  cases t with
  | any | noneT => cases hw
  | int => obtain ⟨n, rfl⟩ := hasType_int ht; exact rt_leaf rfl rfl
  | float => obtain ⟨r, rfl⟩ := hasType_float ht; exact rt_leaf rfl rfl
  | str => obtain ⟨s, rfl⟩ := hasType_str ht; exact rt_leaf rfl rfl
  | bool => obtain ⟨b, rfl⟩ := hasType_bool ht; exact rt_leaf rfl rfl
  | path =>
    obtain ⟨s, rfl, hn⟩ := hasType_path ht
    refine ⟨RT_of (wire_path s) ?_, fun _ _ _ h => nomatch h⟩
    rw [decode_path, decodePath_str, hn]
  | enum c ms =>
    obtain ⟨n, rfl, hn⟩ := hasType_enum ht
    exact ⟨RT_of (wire_enum c n) (decodeEnum_ok c ms n hn), fun _ _ _ h => nomatch h⟩
  | literal vals =>
    obtain ⟨hl, hmem⟩ := Bool.and_eq_true_iff.mp ht
    exact rt_leaf (litLeaf_primLeaf hl) (decodeLiteral_ok hl hmem)
  | list t =>
    obtain ⟨xs, rfl, hx⟩ := hasType_list ht
    have ih : ∀ x ∈ xs, RT henv tr t x := fun x hx' =>
      (rt t x hw (hx x hx') (List.all_eq_true.mp hs x hx')).1
    refine ⟨RT_of (wire_listlike xs fun x hx' => (ih x hx').1).1 ?_, fun _ _ _ h => nomatch h⟩
    simp only [decode_list, iterOf, Out.ok_bind, mapOut_decode ih]
  | vtuple t =>
    obtain ⟨xs, rfl, hx⟩ := hasType_vtuple ht
    have ih : ∀ x ∈ xs, RT henv tr t x := fun x hx' =>
      (rt t x hw (hx x hx') (List.all_eq_true.mp hs x hx')).1
    refine ⟨RT_of (wire_listlike xs fun x hx' => (ih x hx').1).2.1 ?_, fun _ _ _ h => nomatch h⟩
    simp only [decode_vtuple, iterOf, Out.ok_bind, mapOut_decode ih]
  | tuple ts =>
    obtain ⟨xs, rfl, hx⟩ := hasType_tuple ht
    obtain ⟨h1, h2⟩ := rtL ts xs hw hx hs
    refine ⟨RT_of (wire_listlike xs h1).2.1 ?_, fun _ _ _ h => nomatch h⟩
    simp only [decode_tuple, iterOf, Out.ok_bind, h2]
  | set t =>
    obtain ⟨xs, rfl, hx, hd⟩ := hasType_set ht
    obtain ⟨hwt, hh⟩ := Bool.and_eq_true_iff.mp hw
    have ih : ∀ x ∈ xs, RT henv tr t x := fun x hx' =>
      (rt t x hwt (hx x hx') (List.all_eq_true.mp hs x hx')).1
    refine ⟨RT_of (wire_listlike xs fun x hx' => (ih x hx').1).2.2 ?_, fun _ _ _ h => nomatch h⟩
    have hall : xs.all hashable = true := List.all_eq_true.mpr fun x hx' => hashable_of_hashTy t x hh (hx x hx')
    simp only [decode_set, iterOf, Out.ok_bind, mapOut_decode ih, hall, ↓reduceIte,
      setOfList_distinct xs [] (fun _ h => nomatch h) hd, List.nil_append]
  | dict k vt =>
    obtain ⟨ps, rfl, hty, hd⟩ := hasType_dict ht
    obtain ⟨hk, hwv⟩ := Bool.and_eq_true_iff.mp hw
    exact ⟨rt_dict hk (fun p hp => (hty p hp).1) hd fun p hp =>
      (rt vt p.2 hwv (hty p hp).2 (List.all_eq_true.mp hs p hp)).1, fun _ _ _ h => nomatch h⟩
  | union alts =>
    by_cases hp : unionOfPrims alts = true
    · -- a Union of primitives: no side condition
      obtain ⟨hleaf, hd⟩ := decode_union_prims (henv := henv) hp ht
      exact rt_leaf hleaf hd
    · have hp' : unionOfPrims alts = false := Bool.eq_false_iff.mpr hp
      simp only [unionSafe, hp', Bool.false_eq_true, ↓reduceIte] at hs
      split at hs
      · next r hr =>
        obtain ⟨hd, htd⟩ := rtU (alts.any FTy.isNoneT) alts v r hw hr hs
        refine ⟨RT_of hr ?_, htd⟩
        simp only [decode_union, hp', Bool.false_and, Bool.false_eq_true, ↓reduceIte]
        exact hd
      · cases hs
  | dc c reg fs =>
    obtain ⟨ifs, rfl, htf⟩ := hasType_dc ht
    obtain ⟨h1, h2, h4⟩ := rtF fs ifs hw htf hs
    exact rt_dc hw htf h1 h2 h4
theorem rtL (ts : List FTy) (xs : List Val) (hw : wfL ts = true) (ht : hasTypeL ts xs = true)
    (hs : unionSafeL henv tr ts xs = true) :
    (∀ x ∈ xs, wire henv tr x = .ok (W henv tr x)) ∧ decodeT henv ts (xs.map (W henv tr)) = .ok xs := by
  cases ts with
  | nil =>
    cases xs with
    | nil => exact ⟨fun _ h => (nomatch h), rfl⟩
    | cons _ _ => cases ht
  | cons t ts =>
    cases xs with
    | nil => cases ht
    | cons x xs =>
      obtain ⟨hw0, hw⟩ := Bool.and_eq_true_iff.mp hw
      obtain ⟨ht0, ht⟩ := Bool.and_eq_true_iff.mp ht
      obtain ⟨hs0, hs⟩ := Bool.and_eq_true_iff.mp hs
      have h0 := (rt t x hw0 ht0 hs0).1
      obtain ⟨h1, h2⟩ := rtL ts xs hw ht hs
      refine ⟨List.forall_mem_cons.mpr ⟨h0.1, h1⟩, ?_⟩
      simp only [List.map_cons, decodeT, h0.2, h2, Out.ok_bind]
theorem rtF (fs : List (Str × FMeta × Option Val × FTy)) (ifs : List (Str × FMeta × Val))
    (hw : wfF fs = true) (ht : hasTypeF fs ifs = true) (hs : unionSafeF henv tr fs ifs = true) :
    (∀ f ∈ ifs, wire henv tr f.2.2 = .ok (W henv tr f.2.2)) ∧
    toDictL henv ifs = .ok (ifs.map fun f => (Val.str f.1, E henv f.2.2)) ∧
    ∀ d, (∀ f ∈ ifs, lookupKey (.str f.1) d = some (W henv tr f.2.2)) → decodeFields henv d fs false = .ok ifs := by
  cases fs with
  | nil =>
    cases ifs with
    | nil => exact ⟨fun _ h => (nomatch h), rfl, fun _ _ => rfl⟩
    | cons _ _ => cases ht
  | cons f fs =>
    cases ifs with
    | nil => cases ht
    | cons g ifs =>
      obtain ⟨n, m, dflt, t⟩ := f
      obtain ⟨n', m', v⟩ := g
      obtain ⟨rfl, rfl, htv, htr⟩ := hasTypeF_cons ht
      obtain ⟨hmd, hme, hmdec, hwt, _, _, hwr⟩ := wfF_cons hw
      obtain ⟨hs0, hsr⟩ := Bool.and_eq_true_iff.mp hs
      obtain ⟨⟨h0w, h0d⟩, h0td⟩ := rt t v hwt htv hs0
      obtain ⟨h1, h2, h4⟩ := rtF fs ifs hwr htr hsr
      refine ⟨List.forall_mem_cons.mpr ⟨h0w, h1⟩, ?_, ?_⟩
      · rw [toDictL_cons ifs hmd hme (wire_split h0w).1 h0td, h2]
        rfl
      · intro d hd
        obtain ⟨hl, hd⟩ := List.forall_mem_cons.mp hd
        simp only [decodeFields, hl, hmdec, h0d, Out.ok_bind, h4 d hd]
theorem rtU (optional : Bool) (alts : List FTy) (v r : Val) (hw : wfU alts = true)
    (hr : wire henv tr v = .ok r) (hs : unionSafeU henv tr optional alts v r = true) :
    decodeU henv optional alts r = .ok v ∧ TD henv v := by
  cases alts with
  | nil => cases hs
  | cons t ts =>
    obtain ⟨hw0, hw⟩ := Bool.and_eq_true_iff.mp hw
    unfold unionSafeU at hs
    unfold decodeU
    by_cases hn : t.isNoneT = true
    · simp only [hn, ↓reduceIte] at hs ⊢
      exact rtU optional ts v r hw hr hs
    · simp only [hn, Bool.false_eq_true, ↓reduceIte] at hs ⊢
      have hwt : wf t = true := (Bool.or_eq_true_iff.mp hw0).resolve_left hn
      by_cases ho : (optional && isNone r) = true
      · -- `decode_optional` answers None, and only None is received as None
        simp only [ho, ↓reduceIte] at hs
        obtain ⟨ho1, ho2⟩ := Bool.and_eq_true_iff.mp ho
        obtain rfl := isNone_eq hs
        obtain rfl := isNone_eq ho2
        rw [ho1, decodeOptional_none]
        exact ⟨rfl, fun _ _ _ h => nomatch h⟩
      · have ho' : (optional && isNone r) = false := Bool.eq_false_iff.mpr ho
        simp only [ho', Bool.false_eq_true, ↓reduceIte] at hs
        rw [decodeOptional_other ho']
        split at hs
        · next x hx =>
          obtain ⟨hs1, hs2⟩ := Bool.and_eq_true_iff.mp hs
          obtain ⟨h0, htd⟩ := rt t v hwt hs1 hs2
          unfold RT at h0
          rw [W_of_wire hr] at h0
          rw [h0.2]
          exact ⟨rfl, htd⟩
        · next e he =>
          rw [he]
          exact rtU optional ts v r hw hr hs
        · cases hs
end

/-! ### the property -/

/-- `decode t (transport (encode v))` — one value through writer, transport and reader -/
def wireDecode (t : FTy) (v : Val) : Out Val := (wire henv tr v).bind (decode henv t)

/-- **C05, value level, any Union (partial: named exclusion `UnionSafe` at Unions with a non-primitive member).**
    For every annotation of the grammar (any nesting depth), every value of that type, every hook environment and
    each of the three transports: decoding what was written gives the value back — same constructors at every
    node, i.e. tuples as tuples, sets as sets, enum members, paths, dict keys in their key type, instances. -/
theorem c05_roundtrip_partial (t : FTy) (v : Val) (hw : wf t = true) (ht : hasType t v = true)
    (hs : unionSafe henv tr t v = true) : wireDecode henv tr t v = .ok v := by
  obtain ⟨⟨h1, h2⟩, _⟩ := rt henv tr t v hw ht hs
  simp [wireDecode, h1, h2]

/-- **C05, instance level, any Union (partial)**: `from_dict(cls, transport(to_dict(x))) = x` for dataclass
    trees (Serializable or plain at every level), incl. Optional / List / Dict of dataclasses. -/
theorem c05_instance_partial (c : Str) (reg : Bool) (fs : List (Str × FMeta × Option Val × FTy)) (x : Val)
    (hw : wf (.dc c reg fs) = true) (ht : hasType (.dc c reg fs) x = true)
    (hs : unionSafe henv tr (.dc c reg fs) x = true) : roundTrip henv tr (.dc c reg fs) x = .ok x := by
  obtain ⟨ifs, rfl, _⟩ := hasType_dc ht
  obtain ⟨⟨h1, h2⟩, h3⟩ := rt henv tr _ _ hw ht hs
  obtain ⟨e, he, hte⟩ := Out.bind_eq_ok h1
  simp only [roundTrip, toDict, fromDict, h3 c reg ifs rfl, he, Out.ok_bind, hte, h2]

/-! #### the property's own grammar: every Union is `Optional[T]` or a Union of primitives (possibly with None) -/

def isUnionTy : FTy → Bool
  | .union _ => true
  | _ => false

/-- number of non-None members -/
def nMembers (alts : List FTy) : Nat := (alts.filter fun t => !t.isNoneT).length

mutual
/-- every Union node either has only primitive non-None members ("Union of primitives") or a single non-None
    member (`Optional[T]`, any `T` of the grammar) -/
def primUnions : FTy → Bool
  | .list t => primUnions t
  | .set t => primUnions t
  | .vtuple t => primUnions t
  | .tuple ts => primUnionsL ts
  | .dict k v => primUnions k && primUnions v
  | .union alts => unionOfPrims alts || (nMembers alts == 1 && primUnionsU alts)
  | .dc _ _ fs => primUnionsF fs
  | _ => true
def primUnionsL : List FTy → Bool
  | [] => true
  | t :: ts => primUnions t && primUnionsL ts
def primUnionsU : List FTy → Bool
  | [] => true
  | t :: ts => (t.isNoneT || (primUnions t && !isUnionTy t)) && primUnionsU ts   -- typing flattens nested Unions
def primUnionsF : List (Str × FMeta × Option Val × FTy) → Bool
  | [] => true
  | (_, _, _, t) :: fs => primUnions t && primUnionsF fs
end

section
variable {henv} {tr}

theorem encode_none {v : Val} (he : encode henv v = .ok .none) : v = .none := by
  cases v with
  | none => rfl
  | list xs | tuple xs | set xs | inst c r fs =>
    obtain ⟨_, _, h2⟩ := Out.bind_eq_ok he
    cases h2
  | dict o ps =>
    obtain ⟨_, _, h2⟩ := Out.bind_eq_ok he
    obtain ⟨acc, _, h3⟩ := Out.bind_eq_ok h2
    cases acc <;> cases h3
  | _ => cases he

theorem jsonTr_none {e : Val} (h : jsonTr e = .ok .none) : e = .none := by
  cases e with
  | none => rfl
  | list xs | tuple xs | dict o ps =>
    obtain ⟨_, _, h2⟩ := Out.bind_eq_ok h
    cases h2
  | _ => cases h

theorem wire_none {v : Val} (h : wire henv tr v = .ok .none) : v = .none := by
  obtain ⟨e, he, hte⟩ := Out.bind_eq_ok h
  have hen : e = .none := by
    cases tr with
    | id => exact Out.ok.inj hte
    | yaml => exact (yamlTr_ok hte).2.symm
    | json => exact jsonTr_none hte
  subst hen
  exact encode_none he

theorem isNoneT_eq {t : FTy} (h : t.isNoneT = true) : t = .noneT := by
  cases t with
  | noneT => rfl
  | _ => contradiction

theorem nMembers_cons (t : FTy) (ts : List FTy) :
    nMembers (t :: ts) = if t.isNoneT then nMembers ts else nMembers ts + 1 := by
  unfold nMembers
  rw [List.filter_cons]
  cases t.isNoneT <;> rfl

theorem hasTypeU_no_members {ts : List FTy} (h : nMembers ts = 0) {v : Val} (ht : hasTypeU ts v = true) :
    v = .none := by
  induction ts with
  | nil => cases ht
  | cons u us ih =>
    rw [nMembers_cons] at h
    by_cases hu : u.isNoneT = true
    · rw [if_pos hu] at h
      rcases Bool.or_eq_true_iff.mp ht with h1 | h1
      · rw [isNoneT_eq hu] at h1
        exact hasType_noneT h1
      · exact ih h h1
    · rw [if_neg hu] at h
      cases h

theorem optional_of_none {alts : List FTy} (hpu : primUnionsU alts = true) (ht : hasTypeU alts .none = true) :
    alts.any FTy.isNoneT = true := by
  induction alts with
  | nil => cases ht
  | cons u us ih =>
    obtain ⟨hu, hpu⟩ := Bool.and_eq_true_iff.mp hpu
    rw [List.any_cons, Bool.or_eq_true]
    rcases Bool.or_eq_true_iff.mp ht with h1 | h1
    · -- only `NoneType` itself and a nested Union can hold None, and `primUnionsU` has no nested Union
      cases u with
      | noneT => exact Or.inl rfl
      | union _ => simp [FTy.isNoneT, isUnionTy] at hu
      | _ => contradiction
    · exact Or.inr (ih hpu h1)

theorem unionSafeU_none {alts : List FTy} (h : nMembers alts ≥ 1) :
    unionSafeU henv tr true alts .none .none = true := by
  induction alts with
  | nil => cases h
  | cons t ts ih =>
    unfold unionSafeU
    by_cases hn : t.isNoneT = true
    · simp only [hn, ↓reduceIte]
      rw [nMembers_cons, if_pos hn] at h
      exact ih h
    · simp [hn, isNone]

end

mutual
theorem unionSafe_of_primUnions (t : FTy) (v : Val) (hw : wf t = true) (h : primUnions t = true)
    (ht : hasType t v = true) : unionSafe henv tr t v = true := by
  cases t with
  | list t =>
    obtain ⟨xs, rfl, hx⟩ := hasType_list ht
    exact List.all_eq_true.mpr fun x hx' => unionSafe_of_primUnions t x hw h (hx x hx')
  | set t =>
    obtain ⟨xs, rfl, hx, _⟩ := hasType_set ht
    exact List.all_eq_true.mpr fun x hx' =>
      unionSafe_of_primUnions t x (Bool.and_eq_true_iff.mp hw).1 h (hx x hx')
  | vtuple t =>
    obtain ⟨xs, rfl, hx⟩ := hasType_vtuple ht
    exact List.all_eq_true.mpr fun x hx' => unionSafe_of_primUnions t x hw h (hx x hx')
  | tuple ts =>
    obtain ⟨xs, rfl, hx⟩ := hasType_tuple ht
    exact unionSafeL_of_primUnions ts xs hw h hx
  | dict k vt =>
    obtain ⟨ps, rfl, hty, _⟩ := hasType_dict ht
    exact List.all_eq_true.mpr fun p hp =>
      unionSafe_of_primUnions vt p.2 (Bool.and_eq_true_iff.mp hw).2 (Bool.and_eq_true_iff.mp h).2 (hty p hp).2
  | union alts =>
    simp only [unionSafe]
    by_cases hp : unionOfPrims alts = true
    · simp only [hp, ↓reduceIte]
    · rcases Bool.or_eq_true_iff.mp h with h | h
      · exact absurd h hp
      · obtain ⟨hc, hpu⟩ := Bool.and_eq_true_iff.mp h
        simp only [Bool.eq_false_iff.mpr hp, Bool.false_eq_true, ↓reduceIte]
        by_cases hv : v = .none
        · subst hv
          rw [wire_leaf .none rfl]
          simp only [optional_of_none hpu ht]
          exact unionSafeU_none (Nat.le_of_eq (eq_of_beq hc).symm)
        · obtain ⟨r, hr, hu⟩ :=
            unionSafeU_of_single (alts.any FTy.isNoneT) alts v hw hpu (eq_of_beq hc) hv ht
          rw [hr]; exact hu
  | dc c reg fs =>
    obtain ⟨ifs, rfl, htf⟩ := hasType_dc ht
    exact unionSafeF_of_primUnions fs ifs hw h htf
  | int | float | str | bool | path | any | noneT | enum _ _ | literal _ => rfl
theorem unionSafeL_of_primUnions (ts : List FTy) (xs : List Val) (hw : wfL ts = true) (h : primUnionsL ts = true)
    (ht : hasTypeL ts xs = true) : unionSafeL henv tr ts xs = true := by
  cases ts with
  | nil => cases xs <;> rfl
  | cons t ts =>
    cases xs with
    | nil => rfl
    | cons x xs =>
      obtain ⟨hw0, hw⟩ := Bool.and_eq_true_iff.mp hw
      obtain ⟨h0, h⟩ := Bool.and_eq_true_iff.mp h
      obtain ⟨ht0, ht⟩ := Bool.and_eq_true_iff.mp ht
      exact Bool.and_eq_true_iff.mpr
        ⟨unionSafe_of_primUnions t x hw0 h0 ht0, unionSafeL_of_primUnions ts xs hw h ht⟩
/-- `Optional[T]`: the single non-None member is the one the (non-None) value belongs to, and its decoder accepts
    what was written (by the round trip of `T`) -/
theorem unionSafeU_of_single (optional : Bool) (alts : List FTy) (v : Val) (hw : wfU alts = true)
    (hpu : primUnionsU alts = true) (hc : nMembers alts = 1) (hv : v ≠ .none) (ht : hasTypeU alts v = true) :
    ∃ r, wire henv tr v = .ok r ∧ unionSafeU henv tr optional alts v r = true := by
  cases alts with
  | nil => cases hc
  | cons t ts =>
    obtain ⟨hw0, hw⟩ := Bool.and_eq_true_iff.mp hw
    obtain ⟨hpu0, hpu⟩ := Bool.and_eq_true_iff.mp hpu
    by_cases hn : t.isNoneT = true
    · rw [nMembers_cons, if_pos hn] at hc
      have ht' : hasTypeU ts v = true := by
        rcases Bool.or_eq_true_iff.mp ht with h1 | h1
        · rw [isNoneT_eq hn] at h1
          exact absurd (hasType_noneT h1) hv
        · exact h1
      obtain ⟨r, hr, ih⟩ := unionSafeU_of_single optional ts v hw hpu hc hv ht'
      refine ⟨r, hr, ?_⟩
      unfold unionSafeU; simp only [hn, ↓reduceIte]; exact ih
    · rw [nMembers_cons, if_neg hn] at hc
      have htv : hasType t v = true :=
        (Bool.or_eq_true_iff.mp ht).resolve_right fun h1 => hv (hasTypeU_no_members (Nat.succ.inj hc) h1)
      have hwt : wf t = true := (Bool.or_eq_true_iff.mp hw0).resolve_left hn
      have hpt : primUnions t = true :=
        (Bool.and_eq_true_iff.mp ((Bool.or_eq_true_iff.mp hpu0).resolve_left hn)).1
      have hus := unionSafe_of_primUnions t v hwt hpt htv
      obtain ⟨⟨h1, h2⟩, _⟩ := rt henv tr t v hwt htv hus
      refine ⟨W henv tr v, h1, ?_⟩
      have hrn : isNone (W henv tr v) = false :=
        Bool.eq_false_iff.mpr fun hn => hv (wire_none (isNone_eq hn ▸ h1))
      unfold unionSafeU
      simp only [hn, Bool.false_eq_true, ↓reduceIte, hrn, Bool.and_false, h2, htv, hus, Bool.and_self]
theorem unionSafeF_of_primUnions (fs : List (Str × FMeta × Option Val × FTy)) (ifs : List (Str × FMeta × Val))
    (hw : wfF fs = true) (h : primUnionsF fs = true) (ht : hasTypeF fs ifs = true) :
    unionSafeF henv tr fs ifs = true := by
  cases fs with
  | nil => cases ifs <;> rfl
  | cons f fs =>
    cases ifs with
    | nil => rfl
    | cons g ifs =>
      obtain ⟨n, m, d, t⟩ := f
      obtain ⟨n', m', x⟩ := g
      obtain ⟨_, _, htx, ht⟩ := hasTypeF_cons ht
      obtain ⟨_, _, _, hwt, _, _, hw⟩ := wfF_cons hw
      obtain ⟨h0, h⟩ := Bool.and_eq_true_iff.mp h
      exact Bool.and_eq_true_iff.mpr
        ⟨unionSafe_of_primUnions t x hwt h0 htx, unionSafeF_of_primUnions fs ifs hw h ht⟩
end

/-- **C05, value level, full strength on the property's grammar** (`Optional[T]` and Unions of primitives):
    no side condition.  Every value of the declared type comes back equal and with every node of its declared
    type, for every transport and every hook environment. -/
theorem c05_roundtrip (t : FTy) (v : Val) (hw : wf t = true) (hu : primUnions t = true) (ht : hasType t v = true) :
    wireDecode henv tr t v = .ok v :=
  c05_roundtrip_partial henv tr t v hw ht (unionSafe_of_primUnions henv tr t v hw hu ht)

/-- **C05, instance level, full strength on the property's grammar.** -/
theorem c05_instance (c : Str) (reg : Bool) (fs : List (Str × FMeta × Option Val × FTy)) (x : Val)
    (hw : wf (.dc c reg fs) = true) (hu : primUnions (.dc c reg fs) = true) (ht : hasType (.dc c reg fs) x = true) :
    roundTrip henv tr (.dc c reg fs) x = .ok x :=
  c05_instance_partial henv tr c reg fs x hw ht (unionSafe_of_primUnions henv tr _ x hw hu ht)

/-- **the four file formats**: `load(save(x, "f" + ext))` for `.json`, `.yaml`, `.yml`, `.pkl` — the suffix picks the codec
    (`extTr`, mirroring `extensions`), and every codec of the four gives the instance back -/
theorem c05_files (ext : Str) (hext : ext ∈ [".json".toList, ".yaml".toList, ".yml".toList, ".pkl".toList])
    (c : Str) (reg : Bool) (fs : List (Str × FMeta × Option Val × FTy)) (x : Val)
    (hw : wf (.dc c reg fs) = true) (hu : primUnions (.dc c reg fs) = true) (ht : hasType (.dc c reg fs) x = true) :
    saveLoad henv ext (.dc c reg fs) x = .ok x := by
  have key : ∀ e ∈ [".json".toList, ".yaml".toList, ".yml".toList, ".pkl".toList], (extTr e matches .ok _) = true := by
    decide_lit
  have hok := key ext hext
  cases htr : extTr ext with
  | ok tr =>
    simp only [saveLoad, htr, Out.ok_bind]
    exact c05_instance henv tr c reg fs x hw hu ht
  | raise _ | unmodelled _ => rw [htr] at hok; cases hok

/-- an unknown suffix is refused (`get_extension`) -/
theorem extTr_unknown (ext : Str)
    (h : ext ∉ [".json".toList, ".pkl".toList, ".yaml".toList, ".yml".toList, ".npy".toList, ".pth".toList,
      ".toml".toList]) : extTr ext = .raise "RuntimeError".toList := by
  simp only [List.mem_cons, List.not_mem_nil, or_false, not_or] at h
  simp only [extTr, h, Bool.or_self, decide_false, Bool.false_eq_true, ↓reduceIte]

example : saveLoad h0' ".txt".toList (.dc [] true []) (.inst [] true []) = .raise "RuntimeError".toList := by
  rw [saveLoad, extTr_unknown _ (by decide_lit)]; rfl

/-- **the Union clause**: a value that already is an instance of one member of a Union of primitives comes back
    unchanged (member = EXACT type, as in the code's `type(val) in types`: `True` is not taken as an `int` member — it is
    outside `hasType .int` and the code answers `1`, see the example below) — whatever the order of the members, whatever the other members' decoders would make of it -/
theorem c05_union_member_unchanged (alts : List FTy) (v : Val) (hw : wf (.union alts) = true)
    (hp : unionOfPrims alts = true) (ht : hasType (.union alts) v = true) :
    wireDecode henv tr (.union alts) v = .ok v :=
  c05_roundtrip henv tr (.union alts) v hw (by simp [primUnions, hp]) ht

/-- … and directly at the decoder: the raw value is not even looked at by the members' decoders -/
theorem c05_union_exact_member (alts : List FTy) (raw : Val) (hp : unionOfPrims alts = true)
    (hm : alts.any (primMember raw) = true) : decode henv (.union alts) raw = .ok raw := by
  rw [decode_union]; simp [hp, hm]

/-- the statement for every Union (members of any type), without the side condition -/
def FullStatement : Prop :=
  ∀ (henv : HEnv) (tr : Tr) (t : FTy) (v : Val), wf t = true → hasType t v = true → wireDecode henv tr t v = .ok v

def h0 : HEnv := fun _ v => .ok v

-- closed-term evaluations below meet `2 ^ 1024` (`float(int)` in the model's `floatOfInt`)
set_option exponentiation.threshold 2048

/-- outside the property's grammar: `Union[str, Path]` holding a Path comes back as the str (members are still
    tried in declaration order when one of them is not a primitive) -/
theorem c05_union_nonprim_witness :
    wireDecode h0 .id (.union [.str, .path]) (.path ['a']) = .ok (.str ['a']) := by
  simp only [wireDecode, wire, encode, transport, Out.ok_bind]; rfl

theorem c05_full_statement_witness : ¬ FullStatement := by
  intro h
  have := h h0 .id (.union [.str, .path]) (.path ['a']) rfl rfl
  rw [c05_union_nonprim_witness] at this
  cases this

/-! regression examples for the repaired defects (D14 — commit bc9d63e, int beyond the float range — fa1139b) -/
example : wireDecode h0 .id (.union [.int, .str]) (.str "12".toList) = .ok (.str "12".toList) := by
  simp only [wireDecode, wire, encode, transport, Out.ok_bind]; rfl
example : wireDecode h0 .id (.union [.str, .int]) (.int 5) = .ok (.int 5) := by
  simp only [wireDecode, wire, encode, transport, Out.ok_bind]; rfl
example : wireDecode h0 .json (.union [.float, .int]) (.int 2) = .ok (.int 2) := by
  simp only [wireDecode, wire, encode, transport, jsonTr, Out.ok_bind]; rfl
example : wireDecode h0 .yaml (.union [.bool, .str, .noneT]) (.str "yes".toList) = .ok (.str "yes".toList) := by rfl_lit
example : wireDecode h0 .yaml (.union [.bool, .str, .noneT]) .none = .ok .none := by rfl
/-- a value whose exact type is NOT a member still goes through the members in order: True in Union[int, str] -/
example : decode h0 (.union [.int, .str]) (.bool true) = .ok (.int 1) := by rfl
example : wireDecode h0 .id .int (.int (2 ^ 1024)) = .ok (.int (2 ^ 1024)) := by
  simp only [wireDecode, wire, encode, transport, Out.ok_bind]; rfl

/-- outside the grammar (`keyTy`): a dict with tuple keys is written as a list of `(key, value)` tuples, which
    the YAML route cannot read back; the direct route answers an OrderedDict -/
theorem c05_tuple_key_yaml_witness :
    wire h0 .yaml (.dict false [(.tuple [.int 1, .int 2], .str ['a'])]) = .raise "ConstructorError".toList := by
  rfl

/-- repaired by 36b622d (was the open finding C05-ordereddict-yaml): `encode_dict` builds a plain dict whatever Mapping it
    is given, so an OrderedDict is written exactly like the dict with the same items … -/
theorem wire_ordered (ps : List (Val × Val)) : wire henv tr (.dict true ps) = wire henv tr (.dict false ps) := by
  simp only [wire, encode]

/-- … and a Dict annotation holding an OrderedDict comes back, on every transport, as the plain dict with the same items
    (equal to the OrderedDict under Python `==`, which is all the property asks: "all equal x").  `hasType` describes
    instances whose Dict fields hold plain dicts; this theorem is the Dict-node form for an OrderedDict, deeper positions
    (an OrderedDict inside a list / a nested instance) are covered by the examples below and by the generator (p = 0.1). -/
theorem c05_ordered_dict (k vt : FTy) (ps : List (Val × Val)) (hw : wf (.dict k vt) = true)
    (hu : primUnions (.dict k vt) = true) (ht : hasType (.dict k vt) (.dict false ps) = true) :
    wireDecode henv tr (.dict k vt) (.dict true ps) = .ok (.dict false ps) := by
  have := c05_roundtrip henv tr (.dict k vt) (.dict false ps) hw hu ht
  unfold wireDecode at this ⊢
  rw [wire_ordered]; exact this

/-! regression examples for 36b622d: every route gives the equal plain dict back, also from inside a list of an instance -/
example : wireDecode h0 .yaml (.dict .str .int) (.dict true [(.str ['a'], .int 1)]) = .ok (.dict false [(.str ['a'], .int 1)]) := by
  rfl
example : wireDecode h0 .id (.dict .str .int) (.dict true [(.str ['a'], .int 1)]) = .ok (.dict false [(.str ['a'], .int 1)]) := by
  rfl
example : wireDecode h0 .json (.dict .int .str) (.dict true [(.int 1, .str ['x'])]) = .ok (.dict false [(.int 1, .str ['x'])]) := by
  rfl
example :
    roundTrip h0 .yaml (.dc ['K'] true [(['l'], FMeta.plain, none, .list (.dict .int .str))])
      (.inst ['K'] true [(['l'], FMeta.plain, .list [.dict true [(.int 1, .str ['x'])]])]) =
    .ok (.inst ['K'] true [(['l'], FMeta.plain, .list [.dict false [(.int 1, .str ['x'])]])]) := by rfl

theorem c05_tuple_key_direct_witness :
    wireDecode h0 .id (.dict (.tuple [.int, .int]) .str) (.dict false [(.tuple [.int 1, .int 2], .str ['a'])]) =
      .ok (.dict true [(.tuple [.int 1, .int 2], .str ['a'])]) := by
  rfl

/-! ### non-vacuity: the hypotheses hold for non-trivial inputs -/

/-- `class K: a: Dict[int, Tuple[Color, Path]]; b: Optional[Union[int, str]]; c: Set[int]` -/
def exTy : FTy :=
  .dc "K".toList true
    [("a".toList, FMeta.plain, none, .dict .int (.tuple [.enum "Color".toList ["RED".toList, "BLUE".toList], .path])),
     ("b".toList, FMeta.plain, some .none, .union [.int, .str, .noneT]),
     ("c".toList, FMeta.plain, none, .set .int)]

def exVal : Val :=
  .inst "K".toList true
    [("a".toList, FMeta.plain, .dict false [(.int (-5), .tuple [.enum "Color".toList "BLUE".toList, .path "a/b".toList])]),
     ("b".toList, FMeta.plain, .str "abc".toList),
     ("c".toList, FMeta.plain, .set [.int 3, .int 1])]
attribute [lit] exTy exVal

theorem exTy_wf : wf exTy = true := by decide_lit
theorem exVal_hasType : hasType exTy exVal = true := by decide_lit
theorem exVal_unionSafe : unionSafe h0 .json exTy exVal = true := by decide_lit

example : wf exTy = true := exTy_wf
example : hasType exTy exVal = true := exVal_hasType
example : unionSafe h0 .json exTy exVal = true := exVal_unionSafe
example : roundTrip h0 .json exTy exVal = .ok exVal :=
  c05_instance_partial h0 .json _ _ _ exVal exTy_wf exVal_hasType exVal_unionSafe

/-- `unionSafe` on Unions with non-primitive members: true when the first accepting decoder is the value's member … -/
example : unionSafe h0 .json (.union [.path, .list .int]) (.list [.int 1]) = true := by decide +kernel
example : unionSafe h0 .id (.union [.enum ['C'] [['R']], .str]) (.str ['x']) = true := by decide +kernel
/-- … false when an earlier non-primitive member accepts the text of a later one: `Union[Color, str]` holding "RED"
    comes back as `Color.RED` (open finding C05-union-nonprim-order) -/
theorem c05_union_enum_str_witness :
    wireDecode h0 .id (.union [.enum ['C'] [['R']], .str]) (.str ['R']) = .ok (.enum ['C'] ['R']) := by
  simp only [wireDecode, wire, encode, transport, Out.ok_bind]; rfl
example : unionSafe h0 .id (.union [.enum ['C'] [['R']], .str]) (.str ['R']) = false := by decide +kernel

/-- the side condition is void on Unions of primitives and really excludes the lossy non-primitive cases -/
example : unionSafe h0 .id (.union [.int, .str]) (.str "12".toList) = true := by decide_lit
example : unionSafe h0 .id (.union [.str, .path]) (.path ['a']) = false := by decide +kernel
theorem exTy_primUnions : primUnions exTy = true := by decide_lit
example : primUnions exTy = true ∧ wf exTy = true := ⟨exTy_primUnions, exTy_wf⟩
example : primUnions (.list (.union [.noneT, .dict .str (.set .int)])) = true := by decide +kernel
example : roundTrip h0 .yaml exTy exVal = .ok exVal := c05_instance h0 .yaml _ _ _ exVal exTy_wf exTy_primUnions exVal_hasType

/-! ### lenient raw encodings (numbers / bools as strings, tuples as lists) -/

/-- an int written as its decimal text decodes to the int -/
theorem c05_lenient_int (n : Int) : decode henv .int (.str (showInt n)) = .ok (.int n) :=
  decodeInt_str_showInt n

/-- … also with surrounding whitespace (`" 12 "`), as the lenient stream of the generator writes it -/
theorem c05_lenient_int_padded (n : Int) (ws ws' : Str) (hw : ws.all isSpace = true) (hw' : ws'.all isSpace = true) :
    decode henv .int (.str (ws ++ showInt n ++ ws')) = .ok (.int n) := by
  have hasc : isAscii (ws ++ showInt n ++ ws') = true := by
    simp only [isAscii, List.all_append, Bool.and_eq_true]
    exact ⟨⟨isAscii_spaces ws hw, isAscii_showInt n⟩, isAscii_spaces ws' hw'⟩
  exact decodeInt_str hasc (parseInt_padded n ws ws' hw hw')

/-- … and with an explicit plus sign (`"+12"`) -/
theorem c05_lenient_int_plus (m : Nat) : decode henv .int (.str ('+' :: showNat m)) = .ok (.int (Int.ofNat m)) := by
  have hasc : isAscii ('+' :: showNat m) = true :=
    Bool.and_eq_true_iff.mpr ⟨rfl, digitsAux_all (fun c => decide (c.toNat < 128)) digitChar_ascii _ _ [] rfl⟩
  exact decodeInt_str hasc (parseInt_plus m)

example : decode h0 .int (.str " -12\t".toList) = .ok (.int (-12)) := by rfl_lit

/-- leniency lifts through containers pointwise: if every raw item decodes to the item, the raw list decodes to the
    list / the variadic tuple / (for pairwise different hashable items) the set — so a loosened leaf inside
    `List[...]`, `Tuple[..., ...]` is covered by the leaf lemmas -/
theorem c05_lenient_list (t : FTy) (rs xs : List Val) (h : mapOut (decode henv t) rs = .ok xs) :
    decode henv (.list t) (.list rs) = .ok (.list xs) ∧ decode henv (.vtuple t) (.list rs) = .ok (.tuple xs) := by
  constructor
  · rw [decode_list]; simp only [iterOf, Out.ok_bind, h]
  · rw [decode_vtuple]; simp only [iterOf, Out.ok_bind, h]

/-- … and through `Optional[T]` -/
theorem c05_lenient_optional (t : FTy) (r x : Val) (hr : isNone r = false) (hn : t.isNoneT = false)
    (hp : unionOfPrims [t, .noneT] = false) (h : decode henv t r = .ok x) :
    decode henv (.union [t, .noneT]) r = .ok x := by
  rw [decode_union]
  simp only [hp, Bool.false_and, Bool.false_eq_true, ↓reduceIte]
  unfold decodeU
  simp only [hn, Bool.false_eq_true, ↓reduceIte]
  rw [decodeOptional_other (by simp [hr]), h]

/-- float leniency is proved for the reprs the model's `float()` recognises as canonical (plain decimals of at most 15
    significant digits, inf, nan); exponent and 16-17-digit reprs are `unmodelled` in the model and sampled only -/
example : floatOfStr "0.1".toList = .ok "0.1".toList ∧ floatOfStr "-2.25".toList = .ok "-2.25".toList ∧
    floatOfStr "inf".toList = .ok "inf".toList := by
  refine ⟨by rfl_lit, by rfl_lit, by rfl_lit⟩
example : decode h0 (.list .float) (.list [.str "1.5".toList, .float "2.0".toList]) =
    .ok (.list [.float "1.5".toList, .float "2.0".toList]) := by rfl_lit

/-- a bool written as any word of the boolean vocabulary decodes to that bool -/
theorem c05_lenient_bool (w : Str) (b : Bool) (h : str2bool w = some b) :
    decode henv .bool (.str w) = .ok (.bool b) := by
  rw [decode_bool]; simp [decodeBool, h]

/-- a float written as its repr decodes to the float, for every repr the model's `float()` recognises as canonical -/
theorem c05_lenient_float (r : Str) (h : floatOfStr r = .ok r) : decode henv .float (.str r) = .ok (.float r) := by
  rw [decode_float]; simp [decodeFloat, h]

/-- a tuple given as a list (JSON has no tuples) decodes exactly like the tuple, for every annotation: the sequence
    decoders see the raw value only through `iter(val)` -/
theorem c05_lenient_tuple_as_list (t : FTy) (xs : List Val) (ht : match t with
    | .list _ | .vtuple _ | .tuple _ | .set _ => True
    | _ => False) : decode henv t (.tuple xs) = decode henv t (.list xs) := by
  cases t with
  | list _ | vtuple _ | tuple _ | set _ => rfl
  | _ => exact ht.elim

end SpVerif.C05
