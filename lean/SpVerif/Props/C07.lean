/-
  C07 — a subgroup choice selects the type, its defaults and its options.

  Theorems over `SpVerif.Model.Subgroups` (the rounds of `_resolve_subgroups` + the main parse).
  The loop theorems are by induction on the number of rounds, i.e. on the nesting depth of subgroups
  inside subgroups, with no bound.  Map:
    §2-3   `c07_select(_round)`: key = given key (one of the subgroup's keys) else declared default
    §3     `c07_unknown_key(_round)`: an unknown key at any depth ends with status 2
    §4,11  `c07_value_defaults`, `c07_value_hidden`: the chosen entry's keywords / attributes are the defaults
    §5     `c07_foreign(_run)`: an option addressing no active field is rejected
    §7     `c07_reports_witness` / `c07_reports_partial`: `namespace.subgroups`
    §12    `c07_origin` (`Good`): every field wrapper is a field of the root or of a CHOSEN entry
           (`Active`/`Origin`), wrappers of unchosen alternatives are never created; the key selects the
           type (`Chosen`: entry found under the key, its class recorded at the destination)
    §13    `c07_dests_nodup`: destinations are unique for well-formed trees (`wfCls`)
    §14    `c07_value_exact`, `c07_leaf_value`: each leaf is read off its own action; `c07_select_run`,
           `c07_unknown_key_run`, `c07_unknown_key_main(_run)`: the same for `parse_args`
  Gaps that are *named* here:
    * `ReportsStatement` (namespace.subgroups = the chosen keys, unconditionally) is refuted by
      `c07_reports_witness` (`--mod kb`: the choice parser forbids abbreviations, the main parser accepts
      them); `c07_reports_partial` proves it for command lines that the two parsers read alike.
    * `NoCrashStatement` is refuted by `c07_instance_witness` (a frozen-instance alternative whose class
      has a subgroup field with a default key: AssertionError).
    * under EXPLICIT resolution a valid tree can crash with ArgumentError (`c07_explicit_witness`).
    * ACCEPTANCE is not proved: every theorem about values is of the form "if the parse returns, then";
      that a command line made of exact options of the selected groups with valid keys on a clash-free
      tree under AUTO *is* accepted (no conflict, `register`/`expandAll` succeed, nothing required is
      missing) is checked by the oracle clause `accepts` on the real code and by correspondence only.
    * FUEL: `loop` is given `depth + 1` rounds and answers `unmodelled` if that were not enough; that it
      always is enough is not proved — instead the plug-in turns an `unmodelled` answer of `sg.e2e` /
      `sg.rounds` on a well-shaped command line into a correspondence mismatch (0 on every run so far).
    * that option strings registered in the choice parser are never renamed by a later conflict
      resolution is not proved (hypothesis `SameReading` of `c07_reports_partial`); and `c07_foreign` is
      stated on the final table (`findOpt … = .none`) — the corollary "an option of a field of an unchosen
      alternative that is a prefix of no active option is rejected" would need the clash-free FLAT naming
      lemma (resolver leaves prefixes empty), which is not proved.  Both are covered by the
      correspondence ops `sg.rounds` / `sg.e2e`.
  Union[A, B] sub-commands use argparse sub-parsers, which are not modelled (oracle only).
-/
import SpVerif.Model.Subgroups
import SpVerif.Lemmas.Core
import SpVerif.Lemmas.Lit
namespace SpVerif.C07
open SpVerif SpVerif.Subgroups

/-! ### 0. small list facts -/

theorem lookup_map_mem {α : Type} (l : List α) (key : α → Str) (val : α → Val) (d : Str) (v : Val)
    (h : (l.map (fun a => (key a, val a))).lookup d = some v) :
    ∃ a ∈ l, key a = d ∧ val a = v := by
  obtain ⟨l₁, l₂, he, _⟩ := List.lookup_eq_some_iff.mp h
  have hm : (d, v) ∈ l.map (fun a => (key a, val a)) := by
    rw [he]
    exact List.mem_append_right _ List.mem_cons_self
  obtain ⟨a, ha, e⟩ := List.mem_map.mp hm
  exact ⟨a, ha, congrArg Prod.fst e, congrArg Prod.snd e⟩

theorem lookup_map_of_mem {α : Type} (l : List α) (key : α → Str) (val : α → Val) (a : α) (ha : a ∈ l) :
    ∃ a' ∈ l, key a' = key a ∧ (l.map (fun a => (key a, val a))).lookup (key a) = some (val a') := by
  cases hl : (l.map (fun a => (key a, val a))).lookup (key a) with
  | none =>
    have := List.lookup_eq_none_iff.mp hl _ (List.mem_map.mpr ⟨a, ha, rfl⟩)
    simp at this
  | some v =>
    obtain ⟨a', ha', hk, hv⟩ := lookup_map_mem l key val _ v hl
    exact ⟨a', ha', hk, by rw [hv]⟩

/-! ### 1. argparse at outcome level -/

/-- an exact option string is read the same way with and without abbreviations -/
theorem findOpt_exact (ab : Bool) (tbl : List Act) (o : Str) (a : Act) (h : findExact tbl o = some a) :
    findOpt ab tbl o = .act a := by
  simp [findOpt, h]

/-- registering further actions never changes which action an already known option addresses -/
theorem findExact_append_left (tbl ext : List Act) (o : Str) (a : Act) (h : findExact tbl o = some a) :
    findExact (tbl ++ ext) o = some a := by
  fun_induction findExact tbl o with
  | case1 => cases h
  | case2 x xs o hc => exact (if_pos hc).trans h
  | case3 x xs o hc ih => exact (if_neg hc).trans (ih h)

theorem parseOut_ok {ab strict : Bool} {tbl : List Act} {argv : List (Str × Str)} {ns : List (Str × Val)}
    (h : parseOut ab strict tbl argv = .ok ns) :
    ns = tbl.map (fun a => (a.dest, actValue ab tbl argv a)) ∧
    argv.all pairOk = true ∧
    argv.any (pairBad ab strict tbl) = false ∧
    tbl.any (fun a => a.required && (lastFor ab tbl a.dest argv).isNone) = false := by
  revert h
  fun_cases parseOut ab strict tbl argv with
  | case4 h1 h2 h3 =>
    rw [Bool.not_eq_true', Bool.not_eq_false] at h1
    exact fun h => ⟨(POut.ok.inj h).symm, h1, Bool.eq_false_iff.mpr h2, Bool.eq_false_iff.mpr h3⟩
  | _ => exact fun h => nomatch h

theorem parseOut_bad {ab strict : Bool} {tbl : List Act} {argv : List (Str × Str)}
    (hshape : argv.all pairOk = true) {p : Str × Str} (hp : p ∈ argv)
    (hbad : pairBad ab strict tbl p = true) : parseOut ab strict tbl argv = .exit2 := by
  unfold parseOut
  rw [hshape, List.any_eq_true.mpr ⟨p, hp, hbad⟩]
  rfl

theorem convOk_str (a : Act) (v : Str) (s : Scalar) (hconv : a.conv = .base .str) :
    convOk a v = some s ↔ s = .str v ∧ ∀ ch, a.choices = some ch → ch.contains v = true := by
  have hv : a.conv.apply [] 0 v = .ok (.str v) := by rw [hconv]; rfl
  unfold convOk
  rw [hv]
  cases a.choices with
  | none => exact ⟨fun h => ⟨(Option.some.inj h).symm, fun _ h' => nomatch h'⟩, fun h => by rw [h.1]⟩
  | some ch =>
    show (if ch.contains v = true then some (Scalar.str v) else none) = some s ↔ _
    constructor
    · intro h
      split at h
      · exact ⟨(Option.some.inj h).symm, fun ch' e => Option.some.inj e ▸ ‹_›⟩
      · cases h
    · exact fun h => by rw [if_pos (h.2 ch rfl), h.1]

theorem pairBad_unknown_key {ab : Bool} (strict : Bool) {tbl : List Act} {p : Str × Str} {a : Act} {ch : List Str}
    (hfind : findOpt ab tbl p.1 = .act a) (hconv : a.conv = .base .str)
    (hch : a.choices = some ch) (hnot : ch.contains p.2 = false) : pairBad ab strict tbl p = true := by
  unfold pairBad
  rw [hfind]
  show (convOk a p.2).isNone = true
  cases hc : convOk a p.2 with
  | none => rfl
  | some s =>
    have := ((convOk_str a p.2 s hconv).mp hc).2 ch hch
    rw [hnot] at this
    cases this

/-! ### 2. one round -/

/-- what `add_argument` is given for a subgroup field wrapper: its own destination, `type=str`,
    `choices=` the keys of its dict, `default=` its declared default key -/
theorem toAct_sub (cfg : Cfg) {r : SRec} {d : Option Str} {f : Bool} {alts : Alts}
    (h : r.kind = .sub d f alts) :
    (r.toAct cfg).dest = r.dest ∧ (r.toAct cfg).conv = .base .str ∧
    (r.toAct cfg).choices = some alts.keys ∧
    (r.toAct cfg).default = d.map (fun k => Val.sc (.str k)) := by
  unfold SRec.toAct
  rw [h]
  exact ⟨rfl, rfl, rfl, rfl⟩

theorem toAct_leaf (cfg : Cfg) {r : SRec} {c : BConv} {d : Option Scalar} (h : r.kind = .leaf c d) :
    (r.toAct cfg).required = d.isNone ∧ (r.toAct cfg).default = d.map (fun s => Val.sc s) := by
  unfold SRec.toAct
  rw [h]
  exact ⟨rfl, rfl⟩

theorem toAct_dest (cfg : Cfg) (r : SRec) : (r.toAct cfg).dest = r.dest := by
  unfold SRec.toAct
  cases r.kind <;> rfl

theorem isSub_kind {r : SRec} (h : r.isSub = true) : ∃ d f alts, r.kind = .sub d f alts := by
  unfold SRec.isSub at h
  cases hk : r.kind with
  | leaf c d => rw [hk] at h; cases h
  | sub d f alts => exact ⟨d, f, alts, rfl⟩

/-- every action of the choice parser is the `add_argument` of a subgroup field wrapper -/
def FromSub (cfg : Cfg) (a : Act) : Prop := ∃ r : SRec, r.isSub = true ∧ a = r.toAct cfg

theorem register_acts {cfg : Cfg} {rs : List SRec} {tbl tbl' : List Act}
    (h : register cfg tbl rs = .ok tbl') :
    tbl' = tbl ++ (rs.filter (·.isSub)).map (·.toAct cfg) := by
  fun_induction register cfg tbl rs with
  | case1 tbl => exact (Except.ok.inj h).symm.trans (List.append_nil _).symm
  | case2 tbl r rs c d hk ih =>
    rw [ih h, List.filter_cons_of_neg (by rw [SRec.isSub, hk]; exact Bool.false_ne_true)]
  | case3 => cases h
  | case4 => cases h
  | case5 tbl r rs d forced alts hk _ a _ ih =>
    rw [ih h, List.filter_cons_of_pos (by rw [SRec.isSub, hk]), List.append_assoc]
    rfl

theorem round_ok {cfg : Cfg} {mode : CR} {st st' : RState} {argv : List (Str × Str)}
    (h : round cfg mode st argv = .ok st') :
    ∃ ns recs, register cfg st.ctbl (unresolved st) = .ok st'.ctbl ∧
      parseOut false false st'.ctbl argv = .ok ns ∧
      expandAll ns (unresolved st) (st.recs, st.resolved, st.classes, st.hidden) =
        .ok (recs, st'.resolved, st'.classes, st'.hidden) ∧
      reResolve cfg mode recs = .ok st'.recs := by
  revert h
  fun_cases round cfg mode st argv with
  | case7 _ ctbl hreg _ ns hp recs resolved classes hidden hex recs' hre =>
    intro h
    cases h
    exact ⟨ns, recs, hreg, hp, hex, hre⟩
  | _ => exact fun h => nomatch h

/-- the selection rule, relative to the choice parser's table `tbl` of the round: `d` is the
    destination of a subgroup field wrapper whose option is registered in `tbl`, and the key is the last
    value passed under an option addressing `d` — which is then **one of that subgroup's keys** — else
    the subgroup's **declared default key** -/
def Sel (cfg : Cfg) (tbl : List Act) (argv : List (Str × Str)) (d k : Str) : Prop :=
  ∃ (r : SRec) (dflt : Option Str) (forced : Bool) (alts : Alts),
    r.kind = .sub dflt forced alts ∧ r.dest = d ∧ r.toAct cfg ∈ tbl ∧
    ((lastFor false tbl d argv = some k ∧ alts.keys.contains k = true) ∨
     (lastFor false tbl d argv = none ∧ dflt = some k))

/-- the same in terms of the registered action -/
theorem Sel.toAct {cfg : Cfg} {tbl : List Act} {argv : List (Str × Str)} {d k : Str}
    (h : Sel cfg tbl argv d k) :
    ∃ a ∈ tbl, a.dest = d ∧
      ((lastFor false tbl d argv = some k ∧ ∀ ch, a.choices = some ch → ch.contains k = true) ∨
       (lastFor false tbl d argv = none ∧ a.default = some (.sc (.str k)))) := by
  obtain ⟨r, dflt, forced, alts, hk, hd, hm, hc⟩ := h
  obtain ⟨h1, _, h3, h4⟩ := toAct_sub cfg hk
  refine ⟨r.toAct cfg, hm, h1.trans hd,
    hc.imp (fun hc => ⟨hc.1, fun ch hch => ?_⟩) (fun hc => ⟨hc.1, ?_⟩)⟩
  · cases h3.symm.trans hch
    exact hc.2
  · rw [h4, hc.2]
    rfl

theorem actValue_choice (ab : Bool) (tbl : List Act) (argv : List (Str × Str)) (a : Act) (k : Str)
    (hconv : a.conv = .base .str) (h : actValue ab tbl argv a = .sc (.str k)) :
    (lastFor ab tbl a.dest argv = some k ∧ ∀ ch, a.choices = some ch → ch.contains k = true) ∨
    (lastFor ab tbl a.dest argv = none ∧ a.default = some (.sc (.str k))) := by
  revert h
  fun_cases actValue ab tbl argv a with
  | case1 v hl s hc =>
    intro h
    cases h
    obtain ⟨e, hin⟩ := (convOk_str a v _ hconv).mp hc
    cases e
    exact Or.inl ⟨hl, hin⟩
  | case2 => exact fun h => nomatch h
  | case3 hl =>
    cases a.default with
    | none => exact fun h => nomatch h
    | some d => exact fun h => Or.inr ⟨hl, congrArg some h⟩

theorem expandOne_ok {ns : List (Str × Val)} {r : SRec}
    {acc acc' : List SRec × List (Str × Str) × List (Str × Str) × List (Str × Val)}
    (h : expandOne ns r acc = .ok acc') :
    acc' = acc ∨ ∃ dflt forced alts k kind kw cls, r.kind = .sub dflt forced alts ∧
      ns.lookup r.dest = some (.sc (.str k)) ∧ alts.find k = some (kind, kw, cls) ∧
      acc' = (insertChild r.fr.parentDest (recsOf r.dest (r.fr.level + 1) kw (kind == .inst) cls.fields) acc.1,
        acc.2.1 ++ [(r.dest, k)], acc.2.2.1 ++ [(r.dest, cls.name)],
        acc.2.2.2 ++ hiddenOf r.dest kw cls.fields) := by
  revert h
  fun_cases expandOne ns r acc with
  | case1 => exact fun h => Or.inl (Except.ok.inj h).symm
  | case3 dflt forced alts hk k hl kind kw cls hf =>
    exact fun h => Or.inr ⟨dflt, forced, alts, k, kind, kw, cls, hk, hl, hf, (Except.ok.inj h).symm⟩
  | _ => exact fun h => nomatch h

theorem expandAll_inv {ns : List (Str × Val)}
    (P : List SRec → List SRec × List (Str × Str) × List (Str × Str) × List (Str × Val) → Prop)
    (step : ∀ r rs acc acc', P (r :: rs) acc → expandOne ns r acc = .ok acc' → P rs acc')
    {rs : List SRec} {acc acc' : List SRec × List (Str × Str) × List (Str × Str) × List (Str × Val)}
    (hP : P rs acc) (h : expandAll ns rs acc = .ok acc') : P [] acc' := by
  fun_induction expandAll ns rs acc with
  | case1 acc => exact Except.ok.inj h ▸ hP
  | case2 => cases h
  | case3 r rs acc acc1 h1 ih => exact ih (step r rs acc acc1 hP h1) h

/-- **c07_select, one round.** Every key resolved in a successful round follows the selection rule
    with respect to that round's choice parser: given key (one of the subgroup's keys) else the
    declared default. -/
theorem c07_select_round (cfg : Cfg) (mode : CR) (st st' : RState) (argv : List (Str × Str))
    (hc : ∀ a ∈ st.ctbl, FromSub cfg a)
    (h : round cfg mode st argv = .ok st') :
    (∃ ext, st'.ctbl = st.ctbl ++ ext) ∧ (∀ a ∈ st'.ctbl, FromSub cfg a) ∧
    ∀ p ∈ st'.resolved, p ∈ st.resolved ∨ Sel cfg st'.ctbl argv p.1 p.2 := by
  obtain ⟨ns, recs, hreg, hp, hex, _⟩ := round_ok h
  have he := register_acts hreg
  have hall : ∀ a ∈ st'.ctbl, FromSub cfg a := by
    intro a ha
    rw [he] at ha
    rcases List.mem_append.mp ha with ha | ha
    · exact hc a ha
    · obtain ⟨r, hr, rfl⟩ := List.mem_map.mp ha
      exact ⟨r, (List.mem_filter.mp hr).2, rfl⟩
  -- a key resolved in this round is the choice parser's namespace entry for the destination
  have hnew : ∀ p ∈ st'.resolved, p ∈ st.resolved ∨ ns.lookup p.1 = some (.sc (.str p.2)) := by
    refine expandAll_inv
      (fun _ acc => ∀ p ∈ acc.2.1, p ∈ st.resolved ∨ ns.lookup p.1 = some (.sc (.str p.2)))
      ?_ (fun p hp => Or.inl hp) hex
    intro r _ acc acc' hP h1 p hp
    rcases expandOne_ok h1 with rfl | ⟨_, _, _, k, _, _, _, _, hl, _, rfl⟩
    · exact hP p hp
    · rcases List.mem_append.mp hp with hp | hp
      · exact hP p hp
      · cases List.mem_singleton.mp hp
        exact Or.inr hl
  refine ⟨⟨_, he⟩, hall, fun p hpm => (hnew p hpm).imp_right fun hl => ?_⟩
  rw [(parseOut_ok hp).1] at hl
  obtain ⟨a, ha, hd, hv⟩ := lookup_map_mem st'.ctbl (·.dest) (actValue false st'.ctbl argv) p.1 _ hl
  obtain ⟨r, hsub, rfl⟩ := hall a ha
  obtain ⟨dflt, forced, alts, hk⟩ := isSub_kind hsub
  obtain ⟨h1, h2, h3, h4⟩ := toAct_sub cfg hk
  have hcase := actValue_choice false st'.ctbl argv (r.toAct cfg) p.2 h2 hv
  rw [hd] at hcase
  refine ⟨r, dflt, forced, alts, hk, h1.symm.trans hd, ha,
    hcase.imp (fun hc => ⟨hc.1, hc.2 _ h3⟩) (fun hc => ⟨hc.1, ?_⟩)⟩
  have hdf := h4.symm.trans hc.2
  cases dflt with
  | none => cases hdf
  | some k0 => cases hdf; rfl

/-! ### 3. all rounds (any nesting depth) -/

/-- the selection rule with respect to *some* stage of the choice parser that the final one extends
    (options are only ever added to it, and `findExact_append_left` shows that the options known at
    that stage keep addressing the same actions) -/
def SelAt (cfg : Cfg) (final : List Act) (argv : List (Str × Str)) (d k : Str) : Prop :=
  ∃ tbl ext, final = tbl ++ ext ∧ Sel cfg tbl argv d k

theorem loop_inv {cfg : Cfg} {mode : CR} {argv : List (Str × Str)} (P : RState → Prop)
    (step : ∀ st st', P st → round cfg mode st argv = .ok st' → P st')
    {n : Nat} {st st' : RState} (hP : P st) (h : loop cfg mode n st argv = .ok st') : P st' := by
  fun_induction loop cfg mode n st argv with
  | case2 _ st argv st1 hr => exact ROut.ok.inj h ▸ step st st1 hP hr
  | case3 n st argv st1 hr _ ih => exact ih step (step st st1 hP hr) h
  | _ => cases h

/-- **c07_select.** After any number of rounds (any nesting depth of subgroups inside subgroups),
    every resolved subgroup's key is the key given for it on the command line — one of the keys of
    that subgroup's dict — else its declared default key. -/
theorem c07_select (cfg : Cfg) (mode : CR) (n : Nat) (st st' : RState) (argv : List (Str × Str))
    (hc : ∀ a ∈ st.ctbl, FromSub cfg a)
    (h : loop cfg mode n st argv = .ok st') :
    (∃ ext, st'.ctbl = st.ctbl ++ ext) ∧
    ∀ p ∈ st'.resolved, p ∈ st.resolved ∨ SelAt cfg st'.ctbl argv p.1 p.2 := by
  refine (loop_inv
    (fun s => (∀ a ∈ s.ctbl, FromSub cfg a) ∧ (∃ ext, s.ctbl = st.ctbl ++ ext) ∧
      ∀ p ∈ s.resolved, p ∈ st.resolved ∨ SelAt cfg s.ctbl argv p.1 p.2)
    ?_ ⟨hc, ⟨[], (List.append_nil _).symm⟩, fun p hp => Or.inl hp⟩ h).2
  intro s s' ⟨hcs, ⟨ext, he⟩, hsel⟩ hr
  obtain ⟨⟨ext', he'⟩, hcs', hsel'⟩ := c07_select_round cfg mode s s' argv hcs hr
  refine ⟨hcs', ⟨ext ++ ext', by rw [he', he, List.append_assoc]⟩, fun p hp => ?_⟩
  rcases hsel' p hp with hin | hs
  · -- resolved in an earlier round: that round's table is a stage of the new one, too
    refine (hsel p hin).imp_right fun ⟨tbl, ext0, h0, hs⟩ => ⟨tbl, ext0 ++ ext', ?_, hs⟩
    rw [he', h0, List.append_assoc]
  · exact Or.inr ⟨s'.ctbl, [], (List.append_nil _).symm, hs⟩

/-- states reached by successful rounds that leave something unresolved -/
inductive Reach (cfg : Cfg) (mode : CR) (argv : List (Str × Str)) : RState → RState → Nat → Prop
  | refl (st : RState) : Reach cfg mode argv st st 0
  | step (st st1 st2 : RState) (k : Nat) : round cfg mode st argv = .ok st1 →
      (unresolved st1).isEmpty = false → Reach cfg mode argv st1 st2 k → Reach cfg mode argv st st2 (k + 1)

/-- a round that fails at any depth fails the whole resolution, with the same outcome -/
theorem loop_reach {cfg : Cfg} {mode : CR} {argv : List (Str × Str)} {st st2 : RState} {k : Nat} (m : Nat)
    (hr : Reach cfg mode argv st st2 k) :
    loop cfg mode (k + m) st argv = loop cfg mode m st2 argv := by
  induction hr with
  | refl st => rw [Nat.zero_add]
  | step st st1 st2 k h1 hne _ ih =>
    rw [Nat.add_right_comm, loop, h1]
    simp only [hne, Bool.false_eq_true, ↓reduceIte]
    exact ih

/-- **c07_unknown_key, one round.** A value that is not a key, passed under an option the choice
    parser knows, ends the round with status 2. -/
theorem c07_unknown_key_round (cfg : Cfg) (mode : CR) (st : RState) (argv : List (Str × Str))
    (ctbl : List Act) (hreg : register cfg st.ctbl (unresolved st) = .ok ctbl)
    (htbl : tableOk ctbl = true) (hshape : argv.all pairOk = true)
    (p : Str × Str) (hp : p ∈ argv) (a : Act) (ch : List Str)
    (hfind : findExact ctbl p.1 = some a) (hconv : a.conv = .base .str)
    (hch : a.choices = some ch) (hnot : ch.contains p.2 = false) :
    round cfg mode st argv = .exit2 := by
  have hbad := pairBad_unknown_key false (findOpt_exact false _ _ _ hfind) hconv hch hnot
  unfold round
  simp only [hreg, htbl, parseOut_bad hshape hp hbad]
  rfl

/-- **c07_unknown_key.** At whatever depth (after any number of successful rounds) the unknown key
    is met, resolution — and with it `parse_args` — ends with status 2. -/
theorem c07_unknown_key (cfg : Cfg) (mode : CR) (st0 st : RState) (k m : Nat) (argv : List (Str × Str))
    (hr : Reach cfg mode argv st0 st k)
    (ctbl : List Act) (hreg : register cfg st.ctbl (unresolved st) = .ok ctbl)
    (htbl : tableOk ctbl = true) (hshape : argv.all pairOk = true)
    (p : Str × Str) (hp : p ∈ argv) (a : Act) (ch : List Str)
    (hfind : findExact ctbl p.1 = some a) (hconv : a.conv = .base .str)
    (hch : a.choices = some ch) (hnot : ch.contains p.2 = false) :
    loop cfg mode (k + (m + 1)) st0 argv = .exit2 := by
  rw [loop_reach (m + 1) hr, loop,
    c07_unknown_key_round cfg mode st argv ctbl hreg htbl hshape p hp a ch hfind hconv hch hnot]

theorem run_of_resolve {cfg : Cfg} {mode : CR} {dest : Str} {root : Cls} {argv : List (Str × Str)}
    {st : RState} (h : resolveSubgroups cfg mode dest root argv = .ok st) :
    Subgroups.run cfg mode dest root argv = finishParse cfg st argv := by
  unfold Subgroups.run
  rw [h]

/-! ### 4. the value: chosen entry's defaults, overridden by exactly the options passed -/

/-- induction over the fields of one class body (the entries of its subgroup fields are not entered) -/
theorem flds_induct {P : Flds → Prop} (nil : P .nil)
    (leaf : ∀ n c d rest, P rest → P (.leaf n c d rest))
    (hidden : ∀ n d rest, P rest → P (.hidden n d rest))
    (sub : ∀ n d alts rest, P rest → P (.sub n d alts rest)) : ∀ fs, P fs
  | .nil => nil
  | .leaf n c d rest => leaf n c d rest (flds_induct nil leaf hidden sub rest)
  | .hidden n d rest => hidden n d rest (flds_induct nil leaf hidden sub rest)
  | .sub n d alts rest => sub n d alts rest (flds_induct nil leaf hidden sub rest)

/-- membership of a plain field in a class body -/
def HasLeaf (n : Str) (c : BConv) (d : Option Scalar) : Flds → Prop
  | .nil => False
  | .leaf n' c' d' rest => (n' = n ∧ c' = c ∧ d' = d) ∨ HasLeaf n c d rest
  | .hidden _ _ rest => HasLeaf n c d rest
  | .sub _ _ _ rest => HasLeaf n c d rest

/-- **c07_value (defaults).** The field wrappers created for a chosen entry carry, for every plain
    field, the partial keyword / instance attribute when the entry has one for it, else the class's
    own default (dataclass_wrapper.py:94-111) — and nothing else is created. -/
theorem c07_value_defaults (pd : Str) (lvl : Nat) (kw : Kw) (forced : Bool) :
    (fs : Flds) → (r : SRec) → r ∈ recsOf pd lvl kw forced fs → (c : BConv) → (d : Option Scalar) →
    r.kind = .leaf c d →
    r.fr.parentDest = pd ∧ r.fr.pref = [] ∧
    ∃ d0, HasLeaf r.fr.name c d0 fs ∧
      d = (match kw.lookup r.fr.name with | some v => some v | none => d0) := by
  intro fs r hr c d hk
  induction fs using flds_induct with
  | nil => cases hr
  | leaf n c' d' rest ih =>
    rcases List.mem_cons.mp hr with rfl | hr
    · cases hk
      exact ⟨rfl, rfl, d', Or.inl ⟨rfl, rfl, rfl⟩, rfl⟩
    · obtain ⟨h1, h2, d0, h3, h4⟩ := ih hr
      exact ⟨h1, h2, d0, Or.inr h3, h4⟩
  | hidden n d' rest ih => exact ih hr
  | sub n d' alts rest ih =>
    rcases List.mem_cons.mp hr with rfl | hr
    · cases hk
    · exact ih hr

theorem actValue_leaf (ab : Bool) (tbl : List Act) (argv : List (Str × Str)) (a : Act) :
    (∃ v, lastFor ab tbl a.dest argv = some v ∧
      actValue ab tbl argv a = (match convOk a v with | some s => .sc s | none => .sc .none)) ∨
    (lastFor ab tbl a.dest argv = none ∧ actValue ab tbl argv a = a.default.getD (.sc .none)) := by
  unfold actValue
  cases lastFor ab tbl a.dest argv with
  | none => exact Or.inr ⟨rfl, rfl⟩
  | some v => exact Or.inl ⟨v, rfl, rfl⟩

theorem accepted_converts {ab strict : Bool} {tbl : List Act} {argv : List (Str × Str)}
    {ns : List (Str × Val)} (h : parseOut ab strict tbl argv = .ok ns) {p : Str × Str} (hp : p ∈ argv)
    {a : Act} (ha : findOpt ab tbl p.1 = .act a) : ∃ s, convOk a p.2 = some s := by
  have := List.any_eq_false.mp (parseOut_ok h).2.2.1 p hp
  cases hc : convOk a p.2 with
  | none => simp [pairBad, ha, hc] at this
  | some s => exact ⟨s, rfl⟩

theorem finishParse_ok {cfg : Cfg} {st : RState} {argv : List (Str × Str)} {res : Res}
    (h : finishParse cfg st argv = .ok res) :
    ∃ ns, parseOut true true (mainTable cfg st) argv = .ok ns ∧
      res = { leaves := (st.recs.filter (fun r => !r.isSub)).map
                (fun r => (r.dest, (ns.lookup r.dest).getD (.sc .none))),
              classes := st.classes,
              subgroups := (st.recs.filter (·.isSub)).map
                (fun r => (r.dest,
                  match lastFor true (mainTable cfg st) r.dest argv, st.resolved.lookup r.dest with
                  | none, some k => .sc (.str k)
                  | _, _ => (ns.lookup r.dest).getD (.sc .none))),
              hidden := st.hidden } := by
  revert h
  fun_cases finishParse cfg st argv with
  | case4 tbl _ ns hp => exact fun h => ⟨ns, hp, (Out.ok.inj h).symm⟩
  | _ => exact fun h => nomatch h

theorem mainNs_lookup {cfg : Cfg} {st : RState} {argv : List (Str × Str)} {ns : List (Str × Val)}
    (hp : parseOut true true (mainTable cfg st) argv = .ok ns) {r : SRec} (hr : r ∈ st.recs) :
    ∃ a ∈ mainTable cfg st, a.dest = r.dest ∧
      ns.lookup r.dest = some (actValue true (mainTable cfg st) argv a) := by
  have hmem : r.toAct cfg ∈ mainTable cfg st := List.mem_map.mpr ⟨r, hr, rfl⟩
  have := lookup_map_of_mem _ (·.dest) (actValue true (mainTable cfg st) argv) _ hmem
  rwa [toAct_dest, ← (parseOut_ok hp).1] at this

/-- **c07_value (main parse).** In an accepted parse every active plain field's value is the
    namespace entry of an action registered for its destination in the main parser: the last value
    passed under an option addressing it (exactly, or as its unique abbreviation), else the default
    carried by the field wrapper; `classes` are the entries chosen by the rounds. -/
theorem c07_value (cfg : Cfg) (st : RState) (argv : List (Str × Str)) (res : Res)
    (h : finishParse cfg st argv = .ok res) :
    res.classes = st.classes ∧ res.hidden = st.hidden ∧
    ∀ q ∈ res.leaves, ∃ r ∈ st.recs, r.isSub = false ∧ q.1 = r.dest ∧
      ∃ a ∈ mainTable cfg st, a.dest = r.dest ∧ q.2 = actValue true (mainTable cfg st) argv a := by
  obtain ⟨ns, hp, rfl⟩ := finishParse_ok h
  refine ⟨rfl, rfl, fun q hq => ?_⟩
  obtain ⟨r, hrf, rfl⟩ := List.mem_map.mp hq
  obtain ⟨hr, hsub⟩ := List.mem_filter.mp hrf
  obtain ⟨a, ha, hd, hl⟩ := mainNs_lookup hp hr
  exact ⟨r, hr, by simpa using hsub, rfl, a, ha, hd, by rw [hl]; rfl⟩

/-! ### 5. options of unchosen alternatives -/

theorem finishParse_bad {cfg : Cfg} {st : RState} {argv : List (Str × Str)}
    (htbl : tableOk (mainTable cfg st) = true) (hshape : argv.all pairOk = true)
    {p : Str × Str} (hp : p ∈ argv) (hbad : pairBad true true (mainTable cfg st) p = true) :
    finishParse cfg st argv = .exit2 := by
  unfold finishParse
  simp only [htbl, parseOut_bad hshape hp hbad]
  rfl

/-- **c07_foreign.** The main parser knows exactly the options of the active field wrappers
    (`mainTable` = one action per field wrapper of the root and of the entries chosen so far; the
    wrappers of an unchosen alternative are never created: `expandOne` adds `recsOf` of the found
    entry only).  A well-shaped command line with an option that addresses none of them — neither
    exactly nor as an abbreviation, e.g. one that exists only in an unchosen alternative — is rejected
    with status 2. -/
theorem c07_foreign (cfg : Cfg) (st : RState) (argv : List (Str × Str))
    (htbl : tableOk (mainTable cfg st) = true) (hshape : argv.all pairOk = true)
    (p : Str × Str) (hp : p ∈ argv) (hnone : findOpt true (mainTable cfg st) p.1 = .none) :
    finishParse cfg st argv = .exit2 :=
  finishParse_bad htbl hshape hp (by unfold pairBad; rw [hnone])

theorem c07_foreign_run (cfg : Cfg) (mode : CR) (dest : Str) (root : Cls) (st : RState)
    (argv : List (Str × Str)) (hres : resolveSubgroups cfg mode dest root argv = .ok st)
    (htbl : tableOk (mainTable cfg st) = true) (hshape : argv.all pairOk = true)
    (p : Str × Str) (hp : p ∈ argv) (hnone : findOpt true (mainTable cfg st) p.1 = .none) :
    Subgroups.run cfg mode dest root argv = .exit2 :=
  (run_of_resolve hres).trans (c07_foreign cfg st argv htbl hshape p hp hnone)

/-! ### 6. concrete trees: witnesses of the named gaps and non-vacuity of the hypotheses -/

def cfg0 : Cfg := ⟨.underscore, .flat, .default⟩
def clsA : Cls := .mk "A".toList (.leaf "lr".toList .int (some (.int 1)) .nil)
def clsB : Cls := .mk "B".toList
  (.leaf "lr".toList .int (some (.int 2)) (.leaf "wd".toList .int (some (.int 0)) .nil))
/-- `model = subgroups({"ka": A, "kb": partial(B, lr=22)}, default="ka")` -/
def demoRoot : Cls := .mk "Root".toList
  (.sub "model".toList (some "ka".toList)
    (.cons "ka".toList .cls [] clsA (.cons "kb".toList .part [("lr".toList, .int 22)] clsB .nil)) .nil)
attribute [lit] clsA clsB demoRoot

/-- the key given selects the entry; its partial keyword is the default; a passed option overrides -/
example : Subgroups.run cfg0 .auto "config".toList demoRoot
    [("--model".toList, "kb".toList), ("--wd".toList, "7".toList)] =
    .ok { leaves := [("config.model.lr".toList, .sc (.int 22)), ("config.model.wd".toList, .sc (.int 7))],
          classes := [("config.model".toList, "B".toList)],
          subgroups := [("config.model".toList, .sc (.str "kb".toList))] } := by decide_lit

/-- an option of the unchosen alternative is rejected; an unknown key is rejected -/
example : Subgroups.run cfg0 .auto "config".toList demoRoot [("--wd".toList, "7".toList)] = .exit2 := by decide_lit
example : Subgroups.run cfg0 .auto "config".toList demoRoot [("--model".toList, "zz".toList)] = .exit2 := by decide_lit

/-! ### 7. `namespace.subgroups` -/

/-- does option string `o` address destination `d`? -/
def addresses (ab : Bool) (tbl : List Act) (d : Str) (o : Str) : Bool :=
  match findOpt ab tbl o with
  | .act a => decide (a.dest = d)
  | _ => false

/-- the choice parser (at stage `tbl`, abbreviations off) and the main parser (abbreviations on) read
    every option of the command line alike as far as destination `d` is concerned — false exactly
    when an abbreviation of `d`'s option is used, or when `d`'s option was renamed after registration -/
def SameReading (tbl main : List Act) (argv : List (Str × Str)) (d : Str) : Prop :=
  ∀ p ∈ argv, addresses false tbl d p.1 = addresses true main d p.1

instance (tbl main : List Act) (argv : List (Str × Str)) (d : Str) : Decidable (SameReading tbl main argv d) := by
  unfold SameReading; exact inferInstance

/-- the two parsers were given the same `arg_options` for `d` (they come from the same cached
    `FieldWrapper.arg_options`) -/
def SameOptions (tbl main : List Act) (d : Str) : Prop :=
  ∀ a ∈ tbl, a.dest = d → ∀ a' ∈ main, a'.dest = d →
    a.default = a'.default ∧ a'.conv = .base .str ∧ a.choices = a'.choices

theorem lastFor_cons (ab : Bool) (tbl : List Act) (d : Str) (p : Str × Str) (rest : List (Str × Str)) :
    lastFor ab tbl d (p :: rest) =
      (lastFor ab tbl d rest).or (if addresses ab tbl d p.1 then some p.2 else none) := by
  rw [lastFor, addresses]
  cases lastFor ab tbl d rest with
  | some x => rfl
  | none =>
    cases findOpt ab tbl p.1 with
    | act a => simp only [Option.none_or, decide_eq_true_eq]
    | none => rfl
    | ambiguous => rfl

theorem addresses_true {ab : Bool} {tbl : List Act} {d o : Str} (h : addresses ab tbl d o = true) :
    ∃ a, findOpt ab tbl o = .act a ∧ a.dest = d := by
  revert h
  fun_cases addresses ab tbl d o with
  | case1 a hf => exact fun h => ⟨a, hf, of_decide_eq_true h⟩
  | case2 => exact fun h => nomatch h

theorem lastFor_congr {tbl main : List Act} {d : Str} {argv : List (Str × Str)}
    (h : SameReading tbl main argv d) : lastFor false tbl d argv = lastFor true main d argv := by
  induction argv with
  | nil => rfl
  | cons p rest ih =>
    rw [lastFor_cons, lastFor_cons, ih fun q hq => h q (List.mem_cons_of_mem _ hq),
      h p List.mem_cons_self]

theorem lastFor_some {ab : Bool} {tbl : List Act} {d : Str} {argv : List (Str × Str)} {v : Str}
    (h : lastFor ab tbl d argv = some v) :
    ∃ p ∈ argv, p.2 = v ∧ ∃ a, findOpt ab tbl p.1 = .act a ∧ a.dest = d := by
  induction argv with
  | nil => cases h
  | cons q rest ih =>
    rw [lastFor_cons] at h
    rcases Option.or_eq_some_iff.mp h with h | ⟨_, h⟩
    · obtain ⟨p, hp, hv⟩ := ih h
      exact ⟨p, List.mem_cons_of_mem _ hp, hv⟩
    · split at h
      · exact ⟨q, List.mem_cons_self, Option.some.inj h, addresses_true ‹_›⟩
      · cases h

/-- the full statement: `namespace.subgroups` reports the chosen key of every subgroup -/
def ReportsStatement : Prop :=
  ∀ (cfg : Cfg) (mode : CR) (dest : Str) (root : Cls) (argv : List (Str × Str)) (st : RState) (res : Res),
    resolveSubgroups cfg mode dest root argv = .ok st →
    Subgroups.run cfg mode dest root argv = .ok res →
    ∀ p ∈ st.resolved, (p.1, Val.sc (.str p.2)) ∈ res.subgroups

/-- `--mod kb` on the demo tree: the rounds resolve the default key `ka`, the main parse on their final state
    reports `kb`, and the two parsers read the option differently -/
theorem demo_mod_kb :
    (match resolveSubgroups cfg0 .auto "config".toList demoRoot [("--mod".toList, "kb".toList)] with
      | .ok st => decide (st.resolved = [("config.model".toList, "ka".toList)] ∧
          finishParse cfg0 st [("--mod".toList, "kb".toList)] =
            .ok { leaves := [("config.model.lr".toList, .sc (.int 1))],
                  classes := [("config.model".toList, "A".toList)],
                  subgroups := [("config.model".toList, .sc (.str "kb".toList))] } ∧
          ¬ SameReading st.ctbl (mainTable cfg0 st) [("--mod".toList, "kb".toList)] "config.model".toList)
      | _ => false) = true := by decide_lit

/-- **witness (open finding C07-abbrev-key).** `--mod kb`: the choice parser (allow_abbrev=False)
    ignores it and the default entry `A` is instantiated, the main parser accepts it as `--model`:
    `namespace.subgroups` says `kb`. -/
theorem c07_reports_witness : ¬ ReportsStatement := by
  intro H
  have h := demo_mod_kb
  split at h
  · rename_i st hr
    obtain ⟨hres, hfin, _⟩ := of_decide_eq_true h
    have := H _ _ _ _ _ st _ hr ((run_of_resolve hr).trans hfin) ("config.model".toList, "ka".toList)
      (hres ▸ List.mem_cons_self)
    revert this
    decide_lit
  · cases h

/-- **c07_reports (partial).** When the two parsers read the command line alike for a subgroup's
    destination (`SameReading`: no abbreviation of its option, no renaming after registration),
    `namespace.subgroups` reports exactly the key the rounds selected and recorded for it.  (When the
    main parser sees no option for the destination at all, the reported key is the recorded one
    unconditionally: the choice parser's result is already in the namespace.) -/
theorem c07_reports_partial (cfg : Cfg) (st : RState) (argv : List (Str × Str)) (res : Res)
    (h : finishParse cfg st argv = .ok res) (tbl : List Act) (d k : Str)
    (hres : st.resolved.lookup d = some k)
    (hsel : Sel cfg tbl argv d k) (hsame : SameReading tbl (mainTable cfg st) argv d)
    (hopt : SameOptions tbl (mainTable cfg st) d)
    (r : SRec) (hr : r ∈ st.recs) (hsub : r.isSub = true) (hd : r.dest = d) :
    (d, Val.sc (.str k)) ∈ res.subgroups := by
  subst hd
  obtain ⟨ns, hp, rfl⟩ := finishParse_ok h
  refine List.mem_map.mpr ⟨r, List.mem_filter.mpr ⟨hr, hsub⟩, congrArg (Prod.mk r.dest) ?_⟩
  cases hlt : lastFor true (mainTable cfg st) r.dest argv with
  | none => rw [hres]
  | some v0 =>
    -- the main parser saw an option for `r.dest`, so did the choice parser: the key is that value
    have hlast := lastFor_congr hsame
    rw [hlt] at hlast
    obtain ⟨a, ha, had, hcases⟩ := hsel.toAct
    rcases hcases with ⟨hl1, hin⟩ | ⟨hl1, _⟩
    · cases hl1.symm.trans hlast
      obtain ⟨a', ha', hd', hl⟩ := mainNs_lookup hp hr
      obtain ⟨_, hconv, hch⟩ := hopt a ha had a' ha' hd'
      have hconv' := (convOk_str a' k _ hconv).mpr ⟨rfl, fun ch hc => hin ch (hch.trans hc)⟩
      simp only [hl, actValue, hd', hlt, hconv', Option.getD_some]
    · cases hl1.symm.trans hlast

/-! ### 8. the crash on instance entries -/

/-- the full statement: resolution never raises on a subgroup tree -/
def NoCrashStatement : Prop :=
  ∀ (dest : Str) (root : Cls) (argv : List (Str × Str)),
    Subgroups.run cfg0 .auto dest root argv ≠ .raise .assertionError

def clsL : Cls := .mk "L".toList (.leaf "eps".toList .int (some (.int 5)) .nil)
/-- a frozen class with a subgroup field that declares a default key -/
def clsF : Cls := .mk "F".toList (.leaf "wd".toList .int (some (.int 3))
  (.sub "opt".toList (some "ka".toList) (.cons "ka".toList .cls [] clsL .nil) .nil))
/-- `model = subgroups({"ka": A, "kf": F(wd=6)}, default="ka")` -/
def instRoot : Cls := .mk "Root".toList
  (.sub "model".toList (some "ka".toList)
    (.cons "ka".toList .cls [] clsA (.cons "kf".toList .inst [("wd".toList, .int 6)] clsF .nil)) .nil)
attribute [lit] clsL clsF instRoot

/-- **witness (open finding C07-instance-with-subgroup).** Choosing the instance entry pushes the
    instance's `opt` attribute as the default of the nested subgroup option, which trips the assertion
    at parsing.py:692 in the next round. -/
theorem c07_instance_witness : ¬ NoCrashStatement := by
  intro H
  exact H "config".toList instRoot [("--model".toList, "kf".toList)] (by decide_lit)

/-- the same tree is fine as long as the instance entry is not chosen -/
example : Subgroups.run cfg0 .auto "config".toList instRoot [] =
    .ok { leaves := [("config.model.lr".toList, .sc (.int 1))],
          classes := [("config.model".toList, "A".toList)],
          subgroups := [("config.model".toList, .sc (.str "ka".toList))] } := by decide_lit

/-! ### 9. depth 2: the hypotheses of the loop theorems are satisfiable -/

def clsL2 : Cls := .mk "L2".toList
  (.leaf "eps".toList .int (some (.int 7)) (.leaf "beta".toList .int (some (.int 1)) .nil))
/-- `opt = subgroups({"ka": L, "kb": partial(L2, eps=9)}, default="ka")`, `wd: int = 5` -/
def clsM : Cls := .mk "M".toList
  (.sub "opt".toList (some "ka".toList)
    (.cons "ka".toList .cls [] clsL (.cons "kb".toList .part [("eps".toList, .int 9)] clsL2 .nil))
    (.leaf "wd".toList .int (some (.int 5)) .nil))
def deepRoot : Cls := .mk "Root".toList
  (.sub "model".toList (some "ka".toList)
    (.cons "ka".toList .cls [] clsA (.cons "km".toList .cls [] clsM .nil)) .nil)
def deepSt0 : RState :=
  { recs := recsOf "config".toList 1 [] false deepRoot.fields, resolved := [], classes := [], hidden := [],
    ctbl := [] }
def deepArgv : List (Str × Str) :=
  [("--model".toList, "km".toList), ("--opt".toList, "kb".toList), ("--beta".toList, "4".toList)]
attribute [lit] clsL2 clsM deepRoot deepSt0 deepArgv

/-- two rounds: both keys are the given ones (hypothesis `loop … = .ok st'` of `c07_select`) -/
example : (match loop cfg0 .auto 3 deepSt0 deepArgv with
    | .ok st => st.resolved
    | _ => []) =
    [("config.model".toList, "km".toList), ("config.model.opt".toList, "kb".toList)] := by decide_lit

/-- the whole parse at depth 2: defaults of the chosen entries (`eps=9` from the partial), the
    passed option, and the reported keys -/
example : Subgroups.run cfg0 .auto "config".toList deepRoot deepArgv =
    .ok { leaves := [("config.model.wd".toList, .sc (.int 5)), ("config.model.opt.eps".toList, .sc (.int 9)),
                     ("config.model.opt.beta".toList, .sc (.int 4))],
          classes := [("config.model".toList, "M".toList), ("config.model.opt".toList, "L2".toList)],
          subgroups := [("config.model".toList, .sc (.str "km".toList)),
                        ("config.model.opt".toList, .sc (.str "kb".toList))] } := by decide_lit

/-- a state reached after one successful round with something left to resolve
    (hypothesis `Reach … 1` of `c07_unknown_key` / `loop_reach`) -/
example : ∃ st1, Reach cfg0 .auto deepArgv deepSt0 st1 1 := by
  have h : (match round cfg0 .auto deepSt0 deepArgv with
      | .ok st1 => (unresolved st1).isEmpty
      | _ => true) = false := by decide_lit
  split at h
  · rename_i st1 hr
    exact ⟨st1, .step _ st1 st1 0 hr h (.refl st1)⟩
  · cases h

/-- the unknown key met in the second round ends everything with status 2 -/
example : (match loop cfg0 .auto 3 deepSt0 [("--model".toList, "km".toList), ("--opt".toList, "zz".toList)] with
    | .exit2 => true
    | _ => false) = true := by decide_lit

/-- `--beta` exists only in the entry `kb` of `opt`: with the default entry chosen it is foreign -/
example : Subgroups.run cfg0 .auto "config".toList deepRoot
    [("--model".toList, "km".toList), ("--beta".toList, "4".toList)] = .exit2 := by decide_lit

/-- `SameReading` holds for exact options and fails for the abbreviation of the witness -/
example : (match resolveSubgroups cfg0 .auto "config".toList demoRoot [("--model".toList, "kb".toList)] with
    | .ok st => decide (SameReading st.ctbl (mainTable cfg0 st) [("--model".toList, "kb".toList)] "config.model".toList)
    | _ => false) = true := by decide_lit
example : (match resolveSubgroups cfg0 .auto "config".toList demoRoot [("--mod".toList, "kb".toList)] with
    | .ok st => decide (SameReading st.ctbl (mainTable cfg0 st) [("--mod".toList, "kb".toList)] "config.model".toList)
    | _ => true) = false := by
  have h := demo_mod_kb
  split at h
  · exact decide_eq_false (of_decide_eq_true h).2.2
  · cases h

/-! ### 10. EXPLICIT mode: an option registered in the choice parser is renamed, then its old name reused -/

def clsK0 : Cls := .mk "K0".toList .nil
def chain1 : Cls := .mk "K1".toList
  (.sub "lrs".toList (some "ka".toList) (.cons "ka".toList .cls [] clsK0 .nil) .nil)
def chain2 : Cls := .mk "K2".toList
  (.sub "lrs".toList (some "ka".toList) (.cons "ka".toList .cls [] chain1 .nil) .nil)
/-- `lrs` → `lrs` → `lrs`: the same subgroup field name at three nesting levels -/
def chainRoot : Cls := .mk "Root".toList
  (.sub "lrs".toList (some "ka".toList) (.cons "ka".toList .cls [] chain2 .nil) .nil)
attribute [lit] clsK0 chain1 chain2 chainRoot

/-- **witness (open finding C07-explicit-reregister).** Under EXPLICIT resolution the first two
    `lrs` options are renamed to their explicit names after round 1, so the third one keeps the bare
    `--lrs` — which the choice parser already holds from round 0: `add_argument` raises ArgumentError. -/
theorem c07_explicit_witness :
    ¬ (∀ (dest : Str) (root : Cls) (argv : List (Str × Str)),
        Subgroups.run cfg0 .explicit dest root argv ≠ .raise .argumentError) := by
  intro H
  exact H "config".toList chainRoot [] (by decide_lit)

/-- AUTO resolves the same tree (the deeper fields get the longer prefixes) -/
example : Subgroups.run cfg0 .auto "config".toList chainRoot [] =
    .ok { leaves := [],
          classes := [("config.lrs".toList, "K2".toList), ("config.lrs.lrs".toList, "K1".toList),
                      ("config.lrs.lrs.lrs".toList, "K0".toList)],
          subgroups := [("config.lrs".toList, .sc (.str "ka".toList)), ("config.lrs.lrs".toList, .sc (.str "ka".toList)),
                        ("config.lrs.lrs.lrs".toList, .sc (.str "ka".toList))] } := by decide_lit

/-! ### 11. `cmd=False` attributes of the chosen entry -/

/-- membership of a `cmd=False` field in a class body -/
def HasHidden (n : Str) (d : Scalar) : Flds → Prop
  | .nil => False
  | .leaf _ _ _ rest => HasHidden n d rest
  | .sub _ _ _ rest => HasHidden n d rest
  | .hidden n' d' rest => (n' = n ∧ d' = d) ∨ HasHidden n d rest

/-- **c07_value (attributes without an option).** A `cmd=False` field of a chosen entry has no option
    and is never passed to the entry: its value is the partial keyword / the frozen instance's own
    attribute when the entry has one, else the class default. -/
theorem c07_value_hidden (dest : Str) (kw : Kw) :
    (fs : Flds) → (q : Str × Val) → q ∈ hiddenOf dest kw fs →
    ∃ n d0, HasHidden n d0 fs ∧ q.1 = dest ++ '.' :: n ∧
      q.2 = .sc (match kw.lookup n with | some v => v | none => d0) := by
  intro fs q hq
  induction fs using flds_induct with
  | nil => cases hq
  | leaf _ _ _ rest ih => exact ih hq
  | sub _ _ _ rest ih => exact ih hq
  | hidden n' d' rest ih =>
    rcases List.mem_cons.mp hq with rfl | hq
    · exact ⟨n', d', Or.inl ⟨rfl, rfl⟩, rfl, rfl⟩
    · obtain ⟨n, d0, h1, h2⟩ := ih hq
      exact ⟨n, d0, Or.inr h1, h2⟩

/-- `Preset(width=1, url="" cmd=False)`; entries: the frozen instances `tiny`/`large` -/
def clsPreset : Cls := .mk "Preset".toList
  (.leaf "width".toList .int (some (.int 1)) (.hidden "url".toList (.str []) .nil))
def presetRoot : Cls := .mk "Root".toList
  (.sub "preset".toList (some "tiny".toList)
    (.cons "tiny".toList .inst [("width".toList, .int 8), ("url".toList, .str "t.pt".toList)] clsPreset
      (.cons "large".toList .inst [("width".toList, .int 512), ("url".toList, .str "l.pt".toList)] clsPreset .nil)) .nil)
attribute [lit] clsPreset presetRoot

/-- `--preset large --width 100`: the option overrides `width`, `url` stays the large preset's -/
example : Subgroups.run cfg0 .auto "config".toList presetRoot
    [("--preset".toList, "large".toList), ("--width".toList, "100".toList)] =
    .ok { leaves := [("config.preset.width".toList, .sc (.int 100))],
          classes := [("config.preset".toList, "Preset".toList)],
          subgroups := [("config.preset".toList, .sc (.str "large".toList))],
          hidden := [("config.preset.url".toList, .sc (.str "l.pt".toList))] } := by decide_lit

/-! ### 12. the state after the rounds is tied to the tree -/

/-- a field wrapper with its conflict prefix forgotten (the only thing the resolver changes) -/
def stripRec (r : SRec) : SRec := { r with fr := { r.fr with pref := [] } }

@[simp] theorem strip_kind (r : SRec) : (stripRec r).kind = r.kind := rfl
@[simp] theorem strip_name (r : SRec) : (stripRec r).fr.name = r.fr.name := rfl
@[simp] theorem strip_pd (r : SRec) : (stripRec r).fr.parentDest = r.fr.parentDest := rfl
@[simp] theorem strip_level (r : SRec) : (stripRec r).fr.level = r.fr.level := rfl
@[simp] theorem strip_dest (r : SRec) : (stripRec r).dest = r.dest := rfl
@[simp] theorem strip_isSub (r : SRec) : (stripRec r).isSub = r.isSub := rfl

theorem strip_eq_facts {r r0 : SRec} (h : stripRec r = stripRec r0) :
    r.kind = r0.kind ∧ r.fr.name = r0.fr.name ∧ r.fr.parentDest = r0.fr.parentDest ∧
    r.fr.level = r0.fr.level ∧ r.dest = r0.dest ∧ r.isSub = r0.isSub := by
  have e {β : Type} (f : SRec → β) : f (stripRec r) = f (stripRec r0) := congrArg f h
  exact ⟨e SRec.kind, e (·.fr.name), e (·.fr.parentDest), e (·.fr.level), e SRec.dest, e SRec.isSub⟩

theorem applyPrefs_strip (recs : List SRec) (frs : List FieldRec) :
    (applyPrefs recs frs).map stripRec = recs.map stripRec := by
  induction recs generalizing frs with
  | nil => rfl
  | cons r rs ih =>
    cases frs with
    | nil => rfl
    | cons f fs => exact congrArg (stripRec r :: ·) (ih fs)

/-- re-running the conflict resolver changes prefixes only: same wrappers, same order -/
theorem reResolve_strip {cfg : Cfg} {mode : CR} {recs recs' : List SRec}
    (h : reResolve cfg mode recs = .ok recs') : recs'.map stripRec = recs.map stripRec := by
  revert h
  fun_cases reResolve cfg mode recs with
  | case1 frs => exact fun h => Except.ok.inj h ▸ applyPrefs_strip _ _
  | _ => exact fun h => nomatch h

theorem mem_of_map_strip {l l' : List SRec} (h : l'.map stripRec = l.map stripRec) {x : SRec}
    (hx : x ∈ l') : ∃ r ∈ l, stripRec x = stripRec r := by
  have : stripRec x ∈ l.map stripRec := h ▸ List.mem_map.mpr ⟨x, hx, rfl⟩
  obtain ⟨r, hr, he⟩ := List.mem_map.mp this
  exact ⟨r, hr, he.symm⟩

theorem map_dest_of_map_strip {l l' : List SRec} (h : l'.map stripRec = l.map stripRec) :
    l'.map SRec.dest = l.map SRec.dest := by
  have e (m : List SRec) : m.map SRec.dest = (m.map stripRec).map SRec.dest :=
    (List.map_map (f := stripRec) (g := SRec.dest)).symm
  rw [e l', e l, h]

/-- the new wrappers are spliced into the list; nothing is dropped or reordered -/
theorem insertChild_split (p : Str) (new : List SRec) (l : List SRec) :
    ∃ l₁ l₂, l = l₁ ++ l₂ ∧ insertChild p new l = l₁ ++ (new ++ l₂) := by
  fun_induction insertChild p new l with
  | case1 => exact ⟨[], [], rfl, (List.append_nil _).symm⟩
  | case2 r rs _ ih =>
    obtain ⟨l₁, l₂, h1, h2⟩ := ih
    exact ⟨r :: l₁, l₂, congrArg (r :: ·) h1, congrArg (r :: ·) h2⟩
  | case3 r rs => exact ⟨[r], rs, rfl, rfl⟩

theorem insertChild_perm (p : Str) (new : List SRec) (l : List SRec) :
    (insertChild p new l).Perm (new ++ l) := by
  obtain ⟨l₁, l₂, h1, h2⟩ := insertChild_split p new l
  rw [h2, h1]
  exact List.perm_append_comm_assoc l₁ new l₂

theorem mem_insertChild (p : Str) (new : List SRec) (x : SRec) (l : List SRec) :
    x ∈ insertChild p new l ↔ x ∈ new ∨ x ∈ l :=
  (insertChild_perm p new l).mem_iff.trans List.mem_append

/-- membership of a subgroup field in a class body -/
def HasSub (n : Str) (d : Option Str) (alts : Alts) : Flds → Prop
  | .nil => False
  | .leaf _ _ _ rest => HasSub n d alts rest
  | .hidden _ _ rest => HasSub n d alts rest
  | .sub n' d' alts' rest => (n' = n ∧ d' = d ∧ alts' = alts) ∨ HasSub n d alts rest

/-- **the active part of the tree.** `Active dest0 root resolved pd lvl kw forced fs`: the class body
    `fs` is wrapped at destination `pd` (nesting level `lvl`, overrides `kw`, `forced` = it is a frozen
    instance) — because it is the root's, or because it is the body of the entry that `resolved` records
    for a subgroup field of an active body.  Bodies of unchosen alternatives are not active. -/
inductive Active (dest0 : Str) (root : Cls) (resolved : List (Str × Str)) :
    Str → Nat → Kw → Bool → Flds → Prop
  | root : Active dest0 root resolved dest0 1 [] false root.fields
  | chosen (pd : Str) (lvl : Nat) (kw : Kw) (forced : Bool) (fs : Flds)
      (n : Str) (d : Option Str) (alts : Alts) (k : Str) (kind : AltKind) (kw' : Kw) (cls : Cls) :
      Active dest0 root resolved pd lvl kw forced fs → HasSub n d alts fs →
      (pd ++ '.' :: n, k) ∈ resolved → alts.find k = some (kind, kw', cls) →
      Active dest0 root resolved (pd ++ '.' :: n) (lvl + 1) kw' (kind == .inst) cls.fields

theorem Active.mono {dest0 : Str} {root : Cls} {res res' : List (Str × Str)}
    (hsub : ∀ p ∈ res, p ∈ res') {pd : Str} {lvl : Nat} {kw : Kw} {forced : Bool} {fs : Flds}
    (h : Active dest0 root res pd lvl kw forced fs) : Active dest0 root res' pd lvl kw forced fs := by
  induction h with
  | root => exact .root
  | chosen pd lvl kw forced fs n d alts k kind kw' cls _ hs hm hf ih =>
    exact .chosen pd lvl kw forced fs n d alts k kind kw' cls ih hs (hsub _ hm) hf

/-- an active body sits at the root destination or at a destination recorded in `resolved` -/
theorem Active.parent {dest0 : Str} {root : Cls} {res : List (Str × Str)}
    {pd : Str} {lvl : Nat} {kw : Kw} {forced : Bool} {fs : Flds}
    (h : Active dest0 root res pd lvl kw forced fs) : pd = dest0 ∨ ∃ k, (pd, k) ∈ res := by
  cases h with
  | root => exact Or.inl rfl
  | chosen pd lvl kw forced fs n d alts k kind kw' cls _ _ hm _ => exact Or.inr ⟨k, hm⟩

/-- where a field wrapper comes from: it is (up to its conflict prefix) one of the wrappers that
    `DataclassWrapper.__init__` creates for an **active** class body -/
def Origin (dest0 : Str) (root : Cls) (resolved : List (Str × Str)) (r : SRec) : Prop :=
  ∃ pd lvl kw forced fs, Active dest0 root resolved pd lvl kw forced fs ∧
    ∃ r0 ∈ recsOf pd lvl kw forced fs, stripRec r = stripRec r0

theorem Origin.mono {dest0 : Str} {root : Cls} {res res' : List (Str × Str)}
    (hsub : ∀ p ∈ res, p ∈ res') {r : SRec} (h : Origin dest0 root res r) : Origin dest0 root res' r := by
  obtain ⟨pd, lvl, kw, forced, fs, ha, h0⟩ := h
  exact ⟨pd, lvl, kw, forced, fs, ha.mono hsub, h0⟩

theorem Origin.of_strip {dest0 : Str} {root : Cls} {res : List (Str × Str)} {r r' : SRec}
    (he : stripRec r' = stripRec r) (h : Origin dest0 root res r) : Origin dest0 root res r' := by
  obtain ⟨pd, lvl, kw, forced, fs, ha, r0, h0, he0⟩ := h
  exact ⟨pd, lvl, kw, forced, fs, ha, r0, h0, he.trans he0⟩

/-- names of the fields that get a field wrapper -/
def fldNames : Flds → List Str
  | .nil => []
  | .leaf n _ _ rest => n :: fldNames rest
  | .hidden _ _ rest => fldNames rest
  | .sub n _ _ rest => n :: fldNames rest

theorem recsOf_mem {pd : Str} {lvl : Nat} {kw : Kw} {forced : Bool} {fs : Flds} {r0 : SRec}
    (h : r0 ∈ recsOf pd lvl kw forced fs) :
    r0.fr.parentDest = pd ∧ r0.fr.level = lvl ∧ r0.fr.name ∈ fldNames fs ∧
    ∀ d f alts, r0.kind = .sub d f alts → f = forced ∧ HasSub r0.fr.name d alts fs := by
  induction fs using flds_induct with
  | nil => cases h
  | leaf n c d rest ih =>
    rcases List.mem_cons.mp h with rfl | h
    · exact ⟨rfl, rfl, List.mem_cons_self, fun _ _ _ hk => nomatch hk⟩
    · obtain ⟨h1, h2, h3, h4⟩ := ih h
      exact ⟨h1, h2, List.mem_cons_of_mem _ h3, h4⟩
  | hidden n d rest ih => exact ih h
  | sub n d' alts' rest ih =>
    rcases List.mem_cons.mp h with rfl | h
    · refine ⟨rfl, rfl, List.mem_cons_self, fun d f alts hk => ?_⟩
      cases hk
      exact ⟨rfl, Or.inl ⟨rfl, rfl, rfl⟩⟩
    · obtain ⟨h1, h2, h3, h4⟩ := ih h
      exact ⟨h1, h2, List.mem_cons_of_mem _ h3, fun d f alts hk =>
        ⟨(h4 d f alts hk).1, Or.inr (h4 d f alts hk).2⟩⟩

/-- a resolved subgroup: its field wrapper is there, the key is a key of its dict, and the class
    wrapped at its destination is the class of that entry — **the key selects the type** -/
def Chosen (recs : List SRec) (classes : List (Str × Str)) (d k : Str) : Prop :=
  ∃ r ∈ recs, r.dest = d ∧ ∃ dflt forced alts kind kw cls, r.kind = .sub dflt forced alts ∧
    alts.find k = some (kind, kw, cls) ∧ (d, cls.name) ∈ classes

theorem Chosen.mono {recs recs' : List SRec} {classes classes' : List (Str × Str)} {d k : Str}
    (hr : ∀ x ∈ recs, ∃ x' ∈ recs', stripRec x' = stripRec x) (hc : ∀ p ∈ classes, p ∈ classes')
    (h : Chosen recs classes d k) : Chosen recs' classes' d k := by
  obtain ⟨r, hm, hd, dflt, forced, alts, kind, kw, cls, hk, hf, hcl⟩ := h
  obtain ⟨r', hm', he⟩ := hr r hm
  obtain ⟨e1, _, _, _, e5, _⟩ := strip_eq_facts he
  exact ⟨r', hm', e5.trans hd, dflt, forced, alts, kind, kw, cls, e1.trans hk, hf, hc _ hcl⟩

/-- `Good` on the accumulator of `expandAll` -/
structure AccGood (dest0 : Str) (root : Cls)
    (acc : List SRec × List (Str × Str) × List (Str × Str) × List (Str × Val)) : Prop where
  origin : ∀ x ∈ acc.1, Origin dest0 root acc.2.1 x
  chosen : ∀ p ∈ acc.2.1, Chosen acc.1 acc.2.2.1 p.1 p.2

theorem AccGood.active_chosen {dest0 : Str} {root : Cls}
    {acc : List SRec × List (Str × Str) × List (Str × Str) × List (Str × Val)}
    (hg : AccGood dest0 root acc) {r : SRec} (hr : r ∈ acc.1)
    {dflt : Option Str} {forced : Bool} {alts : Alts} {k : Str} {kind : AltKind} {kw : Kw} {cls : Cls}
    (hk : r.kind = .sub dflt forced alts) (hf : alts.find k = some (kind, kw, cls)) :
    Active dest0 root (acc.2.1 ++ [(r.dest, k)]) r.dest (r.fr.level + 1) kw (kind == .inst) cls.fields := by
  obtain ⟨pd, lvl, kw0, f0, fs, ha, r0, h0, he⟩ := hg.origin r hr
  obtain ⟨e1, e2, e3, e4, _, _⟩ := strip_eq_facts he
  obtain ⟨p1, p2, _, p3⟩ := recsOf_mem h0
  obtain ⟨_, hs⟩ := p3 dflt forced alts (e1.symm.trans hk)
  have hdest : r.dest = pd ++ '.' :: r0.fr.name := by
    unfold SRec.dest
    rw [e3, p1, e2]
  rw [hdest, e4, p2]
  exact .chosen pd lvl kw0 f0 fs r0.fr.name dflt alts k kind kw cls
    (ha.mono fun p hp => List.mem_append_left _ hp) hs (List.mem_append_right _ List.mem_cons_self) hf

theorem expandOne_good {dest0 : Str} {root : Cls} {ns : List (Str × Val)} {r : SRec}
    {acc acc' : List SRec × List (Str × Str) × List (Str × Str) × List (Str × Val)}
    (hg : AccGood dest0 root acc) (hr : r ∈ acc.1)
    (h : expandOne ns r acc = .ok acc') :
    AccGood dest0 root acc' ∧ (∀ x ∈ acc.1, x ∈ acc'.1) ∧
    (∀ p ∈ acc'.2.1, p ∈ acc.2.1 ∨ p.1 = r.dest) := by
  rcases expandOne_ok h with rfl | ⟨dflt, forced, alts, k, kind, kw, cls, hk, _, hf, rfl⟩
  · exact ⟨hg, fun _ hx => hx, fun _ hp => Or.inl hp⟩
  · have hres : ∀ p ∈ acc.2.1, p ∈ acc.2.1 ++ [(r.dest, k)] := fun p hp => List.mem_append_left _ hp
    have hrecs : ∀ x ∈ acc.1, x ∈ insertChild r.fr.parentDest
        (recsOf r.dest (r.fr.level + 1) kw (kind == .inst) cls.fields) acc.1 :=
      fun x hx => (mem_insertChild _ _ _ _).mpr (Or.inr hx)
    refine ⟨⟨fun x hx => ?_, fun p hp => ?_⟩, hrecs, fun p hp => ?_⟩
    · rcases (mem_insertChild _ _ _ _).mp hx with hnew | hold
      · exact ⟨r.dest, r.fr.level + 1, kw, kind == .inst, cls.fields, hg.active_chosen hr hk hf,
          x, hnew, rfl⟩
      · exact (hg.origin x hold).mono hres
    · rcases List.mem_append.mp hp with hp | hp
      · exact (hg.chosen p hp).mono (fun x hx => ⟨x, hrecs x hx, rfl⟩)
          (fun q hq => List.mem_append_left _ hq)
      · cases List.mem_singleton.mp hp
        exact ⟨r, hrecs r hr, rfl, dflt, forced, alts, kind, kw, cls, hk, hf,
          List.mem_append_right _ List.mem_cons_self⟩
    · exact (List.mem_append.mp hp).imp_right fun hp => by rw [List.mem_singleton.mp hp]

theorem expandAll_good {dest0 : Str} {root : Cls} {ns : List (Str × Val)} {rs : List SRec}
    {acc acc' : List SRec × List (Str × Str) × List (Str × Str) × List (Str × Val)}
    (hg : AccGood dest0 root acc) (hrs : ∀ r ∈ rs, r ∈ acc.1)
    (h : expandAll ns rs acc = .ok acc') : AccGood dest0 root acc' := by
  refine (expandAll_inv (fun rs a => AccGood dest0 root a ∧ ∀ r ∈ rs, r ∈ a.1) ?_ ⟨hg, hrs⟩ h).1
  intro r rs a a' ⟨hg, hrs⟩ h1
  obtain ⟨g1, s1, _⟩ := expandOne_good hg (hrs r List.mem_cons_self) h1
  exact ⟨g1, fun x hx => s1 x (hrs x (List.mem_cons_of_mem _ hx))⟩

/-- the invariant of the rounds -/
structure Good (dest0 : Str) (root : Cls) (st : RState) : Prop where
  origin : ∀ x ∈ st.recs, Origin dest0 root st.resolved x
  chosen : ∀ p ∈ st.resolved, Chosen st.recs st.classes p.1 p.2

theorem unresolved_mem {st : RState} {r : SRec} (h : r ∈ unresolved st) :
    r ∈ st.recs ∧ r.isSub = true ∧ ∀ k, (r.dest, k) ∉ st.resolved := by
  unfold unresolved at h
  simp only [List.mem_filter, Bool.and_eq_true, Bool.not_eq_true', List.any_eq_false,
    decide_eq_true_eq] at h
  exact ⟨h.1, h.2.1, fun k hk => h.2.2 (r.dest, k) hk rfl⟩

theorem round_good {cfg : Cfg} {mode : CR} {dest0 : Str} {root : Cls} {st st' : RState}
    {argv : List (Str × Str)} (hg : Good dest0 root st) (h : round cfg mode st argv = .ok st') :
    Good dest0 root st' := by
  obtain ⟨ns, recs, _, _, hex, hre⟩ := round_ok h
  have g := expandAll_good (dest0 := dest0) (root := root)
    ⟨hg.origin, hg.chosen⟩ (fun r hr => (unresolved_mem hr).1) hex
  have hs := reResolve_strip hre
  refine ⟨fun x hx => ?_, fun p hp => (g.chosen p hp).mono (fun x hx => ?_) (fun q hq => hq)⟩
  · obtain ⟨r, hr, he⟩ := mem_of_map_strip hs hx
    exact (g.origin r hr).of_strip he
  · obtain ⟨x', hx', he⟩ := mem_of_map_strip hs.symm hx
    exact ⟨x', hx', he.symm⟩

theorem initState_good {cfg : Cfg} {mode : CR} {dest : Str} {root : Cls} {st0 : RState}
    (h : initState cfg mode dest root = .ok st0) :
    Good dest root st0 ∧ st0.resolved = [] ∧ st0.ctbl = [] ∧
      st0.recs.map stripRec = (recsOf dest 1 [] false root.fields).map stripRec := by
  revert h
  fun_cases initState cfg mode dest root with
  | case1 => exact fun h => nomatch h
  | case2 recs hre =>
    intro h
    cases h
    have hs := reResolve_strip hre
    refine ⟨⟨fun x hx => ?_, fun p hp => nomatch hp⟩, rfl, rfl, hs⟩
    obtain ⟨r0, h0, he⟩ := mem_of_map_strip hs hx
    exact ⟨dest, 1, [], false, root.fields, .root, r0, h0, he⟩

theorem resolve_ok {cfg : Cfg} {mode : CR} {dest : Str} {root : Cls} {argv : List (Str × Str)}
    {st : RState} (h : resolveSubgroups cfg mode dest root argv = .ok st) :
    ∃ st0, initState cfg mode dest root = .ok st0 ∧
      (st = st0 ∨ loop cfg mode (root.depth + 1) st0 argv = .ok st) := by
  revert h
  fun_cases resolveSubgroups cfg mode dest root argv with
  | case1 => exact fun h => nomatch h
  | case2 st0 h0 => exact fun h => ⟨st0, h0, Or.inl (ROut.ok.inj h).symm⟩
  | case3 st0 h0 => exact fun h => ⟨st0, h0, Or.inr h⟩

theorem resolve_inv {cfg : Cfg} {mode : CR} {dest : Str} {root : Cls} {argv : List (Str × Str)}
    (P : RState → Prop) (init : ∀ st0, initState cfg mode dest root = .ok st0 → P st0)
    (step : ∀ st st', P st → round cfg mode st argv = .ok st' → P st')
    {st : RState} (h : resolveSubgroups cfg mode dest root argv = .ok st) : P st := by
  obtain ⟨st0, h0, rfl | hl⟩ := resolve_ok h
  · exact init st h0
  · exact loop_inv P step (init st0 h0) hl

/-- **c07_origin.** After `_resolve_subgroups` (any depth): every field wrapper is — up to its conflict
    prefix — a wrapper of the root's class body or of the body of an entry that was **chosen** (recorded
    in `resolved`) for a subgroup field of an active body, with that entry's keywords as overrides
    (`c07_value_defaults` says what they do to the defaults).  So a wrapper of an unchosen alternative
    is never created.  And every resolved subgroup's key is a key of its dict whose entry's class is the
    one wrapped at its destination (`Chosen`): the key selects the type. -/
theorem c07_origin (cfg : Cfg) (mode : CR) (dest : Str) (root : Cls) (argv : List (Str × Str))
    (st : RState) (h : resolveSubgroups cfg mode dest root argv = .ok st) : Good dest root st :=
  resolve_inv (Good dest root)
    (fun _ h0 => (initState_good h0).1)
    (fun _ _ hg hr => round_good hg hr) h

/-! ### 13. destinations are unique (well-formed trees), hence every value is read off its own action -/

mutual
  /-- a well-formed tree: within every class the field names are distinct and dot-free
      (they are Python identifiers of one dataclass) -/
  def wfCls : Cls → Prop
    | .mk _ f => wfFlds f
  def wfFlds : Flds → Prop
    | .nil => True
    | .leaf n _ _ rest => '.' ∉ n ∧ n ∉ fldNames rest ∧ wfFlds rest
    | .hidden _ _ rest => wfFlds rest
    | .sub n _ alts rest => '.' ∉ n ∧ n ∉ fldNames rest ∧ wfAlts alts ∧ wfFlds rest
  def wfAlts : Alts → Prop
    | .nil => True
    | .cons _ _ _ cls rest => wfCls cls ∧ wfAlts rest
end

theorem wfCls_fields : (c : Cls) → wfCls c → wfFlds c.fields
  | .mk _ _, h => h

theorem wfFlds_names {fs : Flds} (h : wfFlds fs) :
    (fldNames fs).Nodup ∧ ∀ n ∈ fldNames fs, '.' ∉ n := by
  induction fs using flds_induct with
  | nil => exact ⟨List.nodup_nil, fun _ h => nomatch h⟩
  | leaf _ _ _ rest ih =>
    obtain ⟨h1, h2⟩ := ih h.2.2
    exact ⟨List.nodup_cons.mpr ⟨h.2.1, h1⟩, List.forall_mem_cons.mpr ⟨h.1, h2⟩⟩
  | hidden _ _ rest ih => exact ih h
  | sub _ _ _ rest ih =>
    obtain ⟨h1, h2⟩ := ih h.2.2.2
    exact ⟨List.nodup_cons.mpr ⟨h.2.1, h1⟩, List.forall_mem_cons.mpr ⟨h.1, h2⟩⟩

theorem wfFlds_hasSub {n : Str} {d : Option Str} {alts : Alts} {fs : Flds} (h : wfFlds fs)
    (hs : HasSub n d alts fs) : wfAlts alts := by
  induction fs using flds_induct with
  | nil => cases hs
  | leaf _ _ _ rest ih => exact ih h.2.2 hs
  | hidden _ _ rest ih => exact ih h hs
  | sub _ _ _ rest ih => exact hs.elim (fun e => e.2.2 ▸ h.2.2.1) (ih h.2.2.2)

theorem wfAlts_find {k : Str} {kind : AltKind} {kw : Kw} {cls : Cls} {alts : Alts}
    (h : wfAlts alts) (hf : alts.find k = some (kind, kw, cls)) : wfCls cls := by
  fun_induction Alts.find alts k with
  | case1 => cases hf
  | case2 k' kind' kw' cls' rest =>
    cases hf
    exact h.1
  | case3 k' kind' kw' cls' rest k _ ih => exact ih h.2 hf

theorem Active.wf {dest0 : Str} {root : Cls} {res : List (Str × Str)} (hwf : wfCls root)
    {pd : Str} {lvl : Nat} {kw : Kw} {forced : Bool} {fs : Flds}
    (h : Active dest0 root res pd lvl kw forced fs) : wfFlds fs := by
  induction h with
  | root => exact wfCls_fields root hwf
  | chosen pd lvl kw forced fs n d alts k kind kw' cls _ hs _ hf ih =>
    exact wfCls_fields cls (wfAlts_find (wfFlds_hasSub ih hs) hf)

theorem recsOf_dests (pd : Str) (lvl : Nat) (kw : Kw) (forced : Bool) (fs : Flds) :
    (recsOf pd lvl kw forced fs).map SRec.dest = (fldNames fs).map (fun n => pd ++ '.' :: n) := by
  induction fs using flds_induct with
  | nil => rfl
  | leaf n _ _ rest ih => exact congrArg ((pd ++ '.' :: n) :: ·) ih
  | hidden _ _ rest ih => exact ih
  | sub n _ _ rest ih => exact congrArg ((pd ++ '.' :: n) :: ·) ih

theorem recsOf_nodup (pd : Str) (lvl : Nat) (kw : Kw) (forced : Bool) {fs : Flds} (h : wfFlds fs) :
    ((recsOf pd lvl kw forced fs).map SRec.dest).Nodup := by
  rw [recsOf_dests]
  exact List.pairwise_map.mpr
    ((wfFlds_names h).1.imp fun hne he => hne (List.cons.inj (List.append_cancel_left he)).2)

/-- a dotted destination splits uniquely into parent destination and (dot-free) field name -/
theorem dest_split_inj {pd pd' n n' : Str} (hn : '.' ∉ n) (hn' : '.' ∉ n')
    (h : pd ++ '.' :: n = pd' ++ '.' :: n') : pd = pd' ∧ n = n' := by
  induction pd generalizing pd' with
  | nil =>
    cases pd' with
    | nil => exact ⟨rfl, (List.cons.inj h).2⟩
    | cons c t =>
      refine absurd ?_ hn
      rw [(List.cons.inj h).2]
      exact List.mem_append_right _ List.mem_cons_self
  | cons a s ih =>
    cases pd' with
    | nil =>
      refine absurd ?_ hn'
      rw [← (List.cons.inj h).2]
      exact List.mem_append_right _ List.mem_cons_self
    | cons c t =>
      obtain ⟨e1, e2⟩ := ih (List.cons.inj h).2
      exact ⟨(List.cons.inj h).1 ▸ e1 ▸ rfl, e2⟩

theorem Origin.facts {dest0 : Str} {root : Cls} {res : List (Str × Str)} (hwf : wfCls root)
    {x : SRec} (h : Origin dest0 root res x) :
    '.' ∉ x.fr.name ∧ (x.fr.parentDest = dest0 ∨ ∃ k, (x.fr.parentDest, k) ∈ res) := by
  obtain ⟨pd, lvl, kw, forced, fs, ha, r0, h0, he⟩ := h
  obtain ⟨_, e2, e3, _, _, _⟩ := strip_eq_facts he
  obtain ⟨p1, _, p3, _⟩ := recsOf_mem h0
  rw [e2, e3, p1]
  exact ⟨(wfFlds_names (ha.wf hwf)).2 _ p3, ha.parent⟩

theorem expandOne_nodup {dest0 : Str} {root : Cls} (hwf : wfCls root) (hd0 : '.' ∉ dest0)
    {ns : List (Str × Val)} {r : SRec}
    {acc acc' : List SRec × List (Str × Str) × List (Str × Str) × List (Str × Val)}
    (hg : AccGood dest0 root acc) (hr : r ∈ acc.1) (hnd : (acc.1.map SRec.dest).Nodup)
    (hun : ∀ k, (r.dest, k) ∉ acc.2.1) (h : expandOne ns r acc = .ok acc') :
    (acc'.1.map SRec.dest).Nodup := by
  rcases expandOne_ok h with rfl | ⟨dflt, forced, alts, k, kind, kw, cls, hk, _, hf, rfl⟩
  · exact hnd
  · -- the chosen entry's class body is well-formed
    have hwc : wfFlds cls.fields := (hg.active_chosen hr hk hf).wf hwf
    -- no existing wrapper sits at a destination of the new ones
    have hfresh : ∀ x ∈ acc.1, ∀ y ∈ recsOf r.dest (r.fr.level + 1) kw (kind == .inst) cls.fields,
        y.dest ≠ x.dest := by
      intro x hx y hy heq
      obtain ⟨q1, _, q3, _⟩ := recsOf_mem hy
      obtain ⟨hxn, hxp⟩ := (hg.origin x hx).facts hwf
      unfold SRec.dest at heq
      rw [q1] at heq
      obtain ⟨hpd, _⟩ := dest_split_inj ((wfFlds_names hwc).2 _ q3) hxn heq
      rcases hxp with hxp | ⟨k', hk'⟩
      · -- the root destination has no dot, `r.dest` has one
        exact hd0 (hxp ▸ hpd ▸ List.mem_append_right _ List.mem_cons_self)
      · exact hun k' (hpd ▸ hk')
    refine (((insertChild_perm _ _ acc.1).map SRec.dest).nodup_iff).mpr ?_
    rw [List.map_append]
    refine List.nodup_append.mpr ⟨recsOf_nodup _ _ _ _ hwc, hnd, fun a ha b hb => ?_⟩
    obtain ⟨y, hy, rfl⟩ := List.mem_map.mp ha
    obtain ⟨x, hx, rfl⟩ := List.mem_map.mp hb
    exact hfresh x hx y hy

theorem round_nodup {cfg : Cfg} {mode : CR} {dest0 : Str} {root : Cls} (hwf : wfCls root)
    (hd0 : '.' ∉ dest0) {st st' : RState} {argv : List (Str × Str)} (hg : Good dest0 root st)
    (hnd : (st.recs.map SRec.dest).Nodup) (h : round cfg mode st argv = .ok st') :
    (st'.recs.map SRec.dest).Nodup := by
  obtain ⟨ns, recs, _, _, hex, hre⟩ := round_ok h
  rw [map_dest_of_map_strip (reResolve_strip hre)]
  -- through `expandAll`: the subgroups still to expand are wrappers, unresolved, at distinct destinations
  refine (expandAll_inv (fun rs a => AccGood dest0 root a ∧ (∀ r ∈ rs, r ∈ a.1) ∧
      (a.1.map SRec.dest).Nodup ∧ (∀ r ∈ rs, ∀ k, (r.dest, k) ∉ a.2.1) ∧ (rs.map SRec.dest).Nodup) ?_
    ⟨⟨hg.origin, hg.chosen⟩, fun r hr => (unresolved_mem hr).1, hnd,
      fun r hr => (unresolved_mem hr).2.2,
      List.Nodup.sublist (List.Sublist.map _ List.filter_sublist) hnd⟩ hex).2.2.1
  intro r rs a a' ⟨hg, hrs, hnd, hun, hrn⟩ h1
  have hr := hrs r List.mem_cons_self
  obtain ⟨g1, s1, u1⟩ := expandOne_good hg hr h1
  obtain ⟨hr1, hr2⟩ := List.nodup_cons.mp hrn
  refine ⟨g1, fun x hx => s1 x (hrs x (List.mem_cons_of_mem _ hx)),
    expandOne_nodup hwf hd0 hg hr hnd (hun r List.mem_cons_self) h1,
    fun r2 hr2m k hk => ?_, hr2⟩
  rcases u1 _ hk with hk | hk
  · exact hun r2 (List.mem_cons_of_mem _ hr2m) k hk
  · exact hr1 (List.mem_map.mpr ⟨r2, hr2m, hk⟩)

/-- **destinations are unique.** For a well-formed tree (distinct dot-free field names per class)
    registered at a dot-free destination, no two field wrappers of the final wrapper list share a
    destination — at any depth. -/
theorem c07_dests_nodup (cfg : Cfg) (mode : CR) (dest : Str) (root : Cls) (argv : List (Str × Str))
    (hwf : wfCls root) (hd0 : '.' ∉ dest) (st : RState)
    (h : resolveSubgroups cfg mode dest root argv = .ok st) : (st.recs.map SRec.dest).Nodup := by
  refine (resolve_inv
    (fun s => Good dest root s ∧ (s.recs.map SRec.dest).Nodup) (fun st0 h0 => ?_)
    (fun s s' ⟨hg, hnd⟩ hr => ⟨round_good hg hr,
      round_nodup hwf hd0 hg hnd hr⟩) h).2
  obtain ⟨g0, _, _, hs⟩ := initState_good h0
  rw [map_dest_of_map_strip hs]
  exact ⟨g0, recsOf_nodup _ _ _ _ (wfCls_fields root hwf)⟩

/-! ### 14. every value is read off the wrapper's own action; lifting to `parse_args` -/

theorem findExact_mem {tbl : List Act} {o : Str} {a : Act} (h : findExact tbl o = some a) : a ∈ tbl := by
  fun_induction findExact tbl o with
  | case1 => cases h
  | case2 x xs o => exact Option.some.inj h ▸ List.mem_cons_self
  | case3 x xs o _ ih => exact List.mem_cons_of_mem _ (ih h)

theorem findOpt_mem {ab : Bool} {tbl : List Act} {o : Str} {a : Act} (h : findOpt ab tbl o = .act a) :
    a ∈ tbl := by
  revert h
  fun_cases findOpt ab tbl o with
  | case1 a' hf => exact fun h => Find.act.inj h ▸ findExact_mem hf
  | case3 _ _ s a' hm =>
    intro h
    have : (s, a') ∈ prefixMatches tbl o := hm ▸ List.mem_cons_self
    obtain ⟨b, hb, hin⟩ := List.mem_flatMap.mp this
    obtain ⟨_, _, he⟩ := List.mem_map.mp hin
    exact Find.act.inj h ▸ (Prod.mk.inj he).2 ▸ hb
  | _ => exact fun h => nomatch h

/-- **c07_value (exact).** With unique destinations (`c07_dests_nodup`), the leaves of an accepted
    parse are exactly the active plain fields — one entry per non-subgroup field wrapper and no
    other — each with the namespace value of **its own** action. -/
theorem c07_value_exact (cfg : Cfg) (st : RState) (argv : List (Str × Str)) (res : Res)
    (hnd : (st.recs.map SRec.dest).Nodup) (h : finishParse cfg st argv = .ok res) :
    res.leaves = (st.recs.filter (fun r => !r.isSub)).map
      (fun r => (r.dest, actValue true (mainTable cfg st) argv (r.toAct cfg))) := by
  obtain ⟨ns, hp, rfl⟩ := finishParse_ok h
  refine List.map_congr_left fun r hr => ?_
  have hr' := (List.mem_filter.mp hr).1
  -- the action found at `r.dest` is the one of a wrapper with that destination: `r` itself
  obtain ⟨a, ha, hd, hl⟩ := mainNs_lookup hp hr'
  obtain ⟨r', hr'm, rfl⟩ := List.mem_map.mp ha
  cases nodup_map_inj hnd hr'm hr' ((toAct_dest cfg r').symm.trans hd)
  rw [hl]
  rfl

/-- **c07_value (one leaf).** The value of an active plain field `r` in an accepted parse: the last
    pair whose option addresses `r`'s own action (exactly or as its unique abbreviation) converted by
    its `type=`, else the default its wrapper carries (`c07_origin` + `c07_value_defaults`: the chosen
    entry's keyword / attribute, else the class default). -/
theorem c07_leaf_value (cfg : Cfg) (st : RState) (argv : List (Str × Str)) (res : Res)
    (hnd : (st.recs.map SRec.dest).Nodup) (h : finishParse cfg st argv = .ok res)
    (r : SRec) (hr : r ∈ st.recs) (c : BConv) (d : Option Scalar) (hk : r.kind = .leaf c d) :
    ∃ v, (r.dest, v) ∈ res.leaves ∧
      ((∃ p ∈ argv, ∃ s, lastFor true (mainTable cfg st) r.dest argv = some p.2 ∧
          findOpt true (mainTable cfg st) p.1 = .act (r.toAct cfg) ∧
          convOk (r.toAct cfg) p.2 = some s ∧ v = .sc s) ∨
       (lastFor true (mainTable cfg st) r.dest argv = none ∧ ∃ s, d = some s ∧ v = .sc s)) := by
  have hleaves := c07_value_exact cfg st argv res hnd h
  obtain ⟨ns, hp, _⟩ := finishParse_ok h
  have hsub : r.isSub = false := by rw [SRec.isSub, hk]
  refine ⟨actValue true (mainTable cfg st) argv (r.toAct cfg), ?_, ?_⟩
  · rw [hleaves]
    exact List.mem_map.mpr ⟨r, List.mem_filter.mpr ⟨hr, by rw [hsub]; rfl⟩, rfl⟩
  · have hmem : r.toAct cfg ∈ mainTable cfg st := List.mem_map.mpr ⟨r, hr, rfl⟩
    rcases actValue_leaf true (mainTable cfg st) argv (r.toAct cfg) with ⟨v, hl, hv⟩ | ⟨hl, hv⟩
    · left
      rw [toAct_dest] at hl
      obtain ⟨p, hpm, rfl, a, hf, had⟩ := lastFor_some hl
      -- the action addressed has `r`'s destination, so it is `r`'s own
      obtain ⟨r', hr', rfl⟩ := List.mem_map.mp (findOpt_mem hf)
      cases nodup_map_inj hnd hr' hr ((toAct_dest cfg r').symm.trans had)
      obtain ⟨s, hs⟩ := accepted_converts hp hpm hf
      exact ⟨p, hpm, s, hl, hf, hs, by rw [hv, hs]⟩
    · right
      rw [toAct_dest] at hl
      -- nothing passed: the action is not `required`, i.e. the wrapper carries a default
      obtain ⟨hreq, hdef⟩ := toAct_leaf cfg hk
      have := List.any_eq_false.mp (parseOut_ok hp).2.2.2 _ hmem
      rw [toAct_dest, hl, hreq] at this
      rw [hv, hdef]
      cases d with
      | none => exact absurd rfl this
      | some s => exact ⟨hl, s, rfl, rfl⟩

theorem run_ok {cfg : Cfg} {mode : CR} {dest : Str} {root : Cls} {argv : List (Str × Str)} {res : Res}
    (h : Subgroups.run cfg mode dest root argv = .ok res) :
    ∃ st, resolveSubgroups cfg mode dest root argv = .ok st ∧ finishParse cfg st argv = .ok res := by
  revert h
  fun_cases Subgroups.run cfg mode dest root argv with
  | case4 st hs => exact fun h => ⟨st, hs, h⟩
  | _ => exact fun h => nomatch h

theorem resolve_select {cfg : Cfg} {mode : CR} {dest : Str} {root : Cls} {argv : List (Str × Str)}
    {st : RState} (h : resolveSubgroups cfg mode dest root argv = .ok st) :
    ∀ p ∈ st.resolved, SelAt cfg st.ctbl argv p.1 p.2 := by
  obtain ⟨st0, h0, rfl | hl⟩ := resolve_ok h
  all_goals obtain ⟨_, hres, htbl, _⟩ := initState_good h0
  · exact fun p hp => nomatch hres ▸ hp
  · have hsel := (c07_select cfg mode _ st0 st argv (fun a ha => nomatch htbl ▸ ha) hl).2
    exact fun p hp => (hsel p hp).resolve_left fun hin => nomatch hres ▸ hin

/-- **c07_select for `parse_args`.** When `parse_args` returns: every subgroup resolved on the way
    (any depth) got the key given for it — one of its keys — else its declared default key
    (`SelAt`/`Sel`); that key's entry is the one whose class is wrapped and instantiated at the
    subgroup's destination (`Chosen`, `res.classes`); every field wrapper belongs to the root or to a
    chosen entry (`Good.origin`). -/
theorem c07_select_run (cfg : Cfg) (mode : CR) (dest : Str) (root : Cls) (argv : List (Str × Str))
    (res : Res) (h : Subgroups.run cfg mode dest root argv = .ok res) :
    ∃ st, resolveSubgroups cfg mode dest root argv = .ok st ∧ Good dest root st ∧
      ∀ p ∈ st.resolved, SelAt cfg st.ctbl argv p.1 p.2 ∧ Chosen st.recs res.classes p.1 p.2 := by
  obtain ⟨st, hs, hf⟩ := run_ok h
  have hg := c07_origin cfg mode dest root argv st hs
  refine ⟨st, hs, hg, fun p hp => ⟨resolve_select hs p hp, ?_⟩⟩
  rw [(c07_value cfg st argv res hf).1]
  exact hg.chosen p hp

/-- **c07_unknown_key for `parse_args`.** An unknown key met by the choice parser after `k` successful
    rounds (`k` at most the depth of the tree) makes `parse_args` exit with status 2. -/
theorem c07_unknown_key_run (cfg : Cfg) (mode : CR) (dest : Str) (root : Cls) (st0 st : RState) (k : Nat)
    (argv : List (Str × Str)) (h0 : initState cfg mode dest root = .ok st0)
    (hne : (unresolved st0).isEmpty = false) (hr : Reach cfg mode argv st0 st k) (hk : k ≤ root.depth)
    (ctbl : List Act) (hreg : register cfg st.ctbl (unresolved st) = .ok ctbl)
    (htbl : tableOk ctbl = true) (hshape : argv.all pairOk = true)
    (p : Str × Str) (hp : p ∈ argv) (a : Act) (ch : List Str)
    (hfind : findExact ctbl p.1 = some a) (hconv : a.conv = .base .str)
    (hch : a.choices = some ch) (hnot : ch.contains p.2 = false) :
    Subgroups.run cfg mode dest root argv = .exit2 := by
  have hloop := c07_unknown_key cfg mode st0 st k (root.depth - k) argv hr ctbl hreg htbl hshape p hp
    a ch hfind hconv hch hnot
  rw [← Nat.add_assoc, Nat.add_sub_of_le hk] at hloop
  have : resolveSubgroups cfg mode dest root argv = .exit2 := by
    unfold resolveSubgroups
    rw [h0]
    dsimp only
    rw [hne]
    exact hloop
  unfold Subgroups.run
  rw [this]

/-- **c07_unknown_key, main parser.** A value that is not a key, passed under an option that only the
    main parser reads as a subgroup's option (an abbreviation, or a renamed option), is rejected there. -/
theorem c07_unknown_key_main (cfg : Cfg) (st : RState) (argv : List (Str × Str))
    (htbl : tableOk (mainTable cfg st) = true) (hshape : argv.all pairOk = true)
    (p : Str × Str) (hp : p ∈ argv) (a : Act) (ch : List Str)
    (hfind : findOpt true (mainTable cfg st) p.1 = .act a) (hconv : a.conv = .base .str)
    (hch : a.choices = some ch) (hnot : ch.contains p.2 = false) :
    finishParse cfg st argv = .exit2 :=
  finishParse_bad htbl hshape hp
    (pairBad_unknown_key true hfind hconv hch hnot)

theorem c07_unknown_key_main_run (cfg : Cfg) (mode : CR) (dest : Str) (root : Cls) (st : RState)
    (argv : List (Str × Str)) (hres : resolveSubgroups cfg mode dest root argv = .ok st)
    (htbl : tableOk (mainTable cfg st) = true) (hshape : argv.all pairOk = true)
    (p : Str × Str) (hp : p ∈ argv) (a : Act) (ch : List Str)
    (hfind : findOpt true (mainTable cfg st) p.1 = .act a) (hconv : a.conv = .base .str)
    (hch : a.choices = some ch) (hnot : ch.contains p.2 = false) :
    Subgroups.run cfg mode dest root argv = .exit2 :=
  (run_of_resolve hres).trans
    (c07_unknown_key_main cfg st argv htbl hshape p hp a ch hfind hconv hch hnot)

/-- the demo trees are well-formed, `config` is dot-free: the hypotheses of `c07_dests_nodup` hold -/
example : wfCls deepRoot ∧ '.' ∉ "config".toList := by
  simp only [String.toList_lit rfl, lit, wfCls, wfFlds, wfAlts, fldNames]
  decide +kernel

/-- `--mod zz`: only the main parser reads it (as `--model`), and rejects the unknown key -/
example : Subgroups.run cfg0 .auto "config".toList demoRoot [("--mod".toList, "zz".toList)] = .exit2 := by
  decide_lit

end SpVerif.C07
