/-
  C12 — Boolean flags: bare means True, negative means False, values parse, last wins.
  Theorems about `SpVerif.Model.BoolFlag` (mirrors custom_actions.py / utils.str2bool) and about
  `SpVerif.Model.BoolFlagE2E` (option strings → negative option strings → which occurrence a token
  is → the occurrence algebra).  String lemmas live in `SpVerif.Lemmas.BoolFlag`
  and `SpVerif.Lemmas.Core`.
-/
import SpVerif.Model.BoolFlag
import SpVerif.Model.BoolFlagE2E
import SpVerif.Lemmas.Core
import SpVerif.Lemmas.BoolFlag
import SpVerif.Lemmas.Lit
namespace SpVerif.C12
open SpVerif SpVerif.BoolFlagL

/-! ### the occurrence algebra: last occurrence wins, any error rejects -/

/-- an occurrence that argparse + the action accept -/
def Accepts (e : Nat) (o : Occ) (b : Bool) : Prop := callOne e o = .ok b

theorem runOccs_ok_append {e : Nat} {occs : List Occ} {o : Occ} {b : Bool} (cur : Option Bool)
    (hall : ∀ x ∈ occs, ∃ bx, callOne e x = .ok bx) (ho : callOne e o = .ok b) :
    runOccs e cur (occs ++ [o]) = .ok (some b) := by
  induction occs generalizing cur with
  | nil => simp only [List.nil_append, runOccs, ho]
  | cons x xs ih =>
    obtain ⟨bx, hbx⟩ := hall x List.mem_cons_self
    simp only [List.cons_append, runOccs, hbx]
    exact ih (some bx) (fun y hy => hall y (List.mem_cons_of_mem x hy))

/-- **Last wins.** If every occurrence is acceptable, the value is the one named by the last
    occurrence — whatever came before and whatever the default is. Unbounded sequence length. -/
theorem c12_last_wins (e : Nat) (d : Option Bool) (occs : List Occ) (o : Occ) (b : Bool)
    (hall : ∀ x ∈ occs, ∃ bx, Accepts e x bx) (ho : Accepts e o b) :
    flagResult e d (occs ++ [o]) = .ok b := by
  simp only [flagResult, runOccs_ok_append none hall ho]

/-- the three acceptable forms and their values (which command-line token IS a bare / negative /
    valued occurrence is decided by `BoolE2E.classify`, see `c12_classify_neg`, `c12_e2e_last_wins`) -/
theorem c12_bare (e : Nat) : Accepts e .bare true := rfl
theorem c12_negative (e : Nat) : Accepts e .neg false := rfl
theorem c12_valued (e : Nat) (w : Str) (b : Bool) (h : str2bool w = some b) :
    Accepts e (.valued w) b := by rw [Accepts, callOne, h]

/-- no occurrence: the default, or rejection (status 2) for a required flag -/
theorem c12_absent_default (e : Nat) (d : Bool) : flagResult e (some d) [] = .ok d := rfl
theorem c12_absent_required (e : Nat) : flagResult e none [] = .exit 2 := rfl

theorem runOccs_spec (e : Nat) (cur : Option Bool) (occs : List Occ) :
    match runOccs e cur occs with
    | .ok _ => ∀ o ∈ occs, ∃ b, Accepts e o b
    | .error c => ∃ o ∈ occs, callOne e o = .exit c := by
  fun_induction runOccs e cur occs with
  | case1 => exact fun _ h => (List.not_mem_nil h).elim
  | case2 _ x xs bx hx ih =>
    revert ih
    split
    · exact fun ih => List.forall_mem_cons.mpr ⟨⟨bx, hx⟩, ih⟩
    · exact fun ⟨o, ho, h⟩ => ⟨o, List.mem_cons_of_mem x ho, h⟩
  | case3 _ x xs c hx => exact ⟨x, List.mem_cons_self, hx⟩

/-- with status 2 for a value on a negative flag (the repaired code), every rejection has status 2 -/
theorem callOne_exit {o : Occ} {c : Nat} : callOne 2 o = .exit c → c = 2 := by
  fun_cases callOne 2 o <;> rintro ⟨⟩ <;> rfl

/-- the only exit status the model ever produces (for the repaired code) is 2: never status 0,
    never any other code. -/
theorem c12_exit_is_2 (d : Option Bool) (occs : List Occ) (c : Nat)
    (h : flagResult 2 d occs = .exit c) : c = 2 := by
  have hs := runOccs_spec 2 none occs
  revert h
  fun_cases flagResult 2 d occs with
  | case1 _ c' hr =>
    rintro ⟨⟩
    rw [hr] at hs
    obtain ⟨o, _, ho⟩ := hs
    exact callOne_exit ho
  | case4 => rintro ⟨⟩; rfl
  | _ => rintro ⟨⟩

/-- an occurrence that is rejected rejects the whole command line, wherever it stands -/
theorem c12_rejected_of_mem (d : Option Bool) {occs : List Occ} {o : Occ} {c : Nat}
    (hmem : o ∈ occs) (hbad : callOne 2 o = .exit c) : flagResult 2 d occs = .exit 2 := by
  have hs := runOccs_spec 2 none occs
  cases hr : runOccs 2 none occs with
  | ok v =>
    rw [hr] at hs
    obtain ⟨b, hb⟩ := hs o hmem
    rw [Accepts, hbad] at hb
    cases hb
  | error c' =>
    have h : flagResult 2 d occs = .exit c' := by simp only [flagResult, hr]
    rw [h, c12_exit_is_2 d occs c' h]

/-- **A value on a negative flag is rejected with status 2**, wherever it occurs in the command
    line (stated for the repaired code, `exitNegValued = 2`). -/
theorem c12_neg_value_rejected (d : Option Bool) (occs : List Occ) (w : Str)
    (h : Occ.negValued w ∈ occs) : flagResult 2 d occs = .exit 2 := by
  refine c12_rejected_of_mem d (c := 2) h ?_
  rw [callOne]
  split <;> rfl

/-- a value outside the vocabulary is rejected with status 2 -/
theorem c12_nonword_rejected (d : Option Bool) (occs : List Occ) (w : Str)
    (hw : str2bool w = none) (h : Occ.valued w ∈ occs) : flagResult 2 d occs = .exit 2 :=
  c12_rejected_of_mem d h (by rw [callOne, hw])

/-! ### the negative option STRINGS (custom_actions.py:61-126)

  Second sentence of the property: unless a single explicit negative option is declared, each long
  spelling of the positive option has a negative counterpart with the same path prefix, so the negative
  options of same-named fields registered at different destinations never collide. -/

theorem contains_dot_iff (o : Str) : o.contains '.' = true ↔ '.' ∈ o := by simp

/-- **Shape, dotted spelling** (`rpartition` form): the negative prefix is inserted after the LAST
    dot, the path before it is kept, the leading dashes become those of the negative prefix. -/
theorem c12_neg_shape (np P leaf : Str) (hl : '.' ∉ leaf) :
    negOne np (P ++ '.' :: leaf) =
      some (List.replicate (leadingDashes np) '-' ++ lstripDash P ++ '.' :: (lstripDash np ++ leaf)) := by
  have hc : (P ++ '.' :: leaf).contains '.' = true :=
    (contains_dot_iff _).mpr (List.mem_append_right P List.mem_cons_self)
  obtain ⟨f, mid, hs⟩ := List.exists_cons_of_ne_nil (splitOnChar_ne_nil '.' P)
  have hP : joinWith '.' (f :: mid) = P := hs ▸ joinWith_splitOnChar '.' P
  unfold negOne
  rw [if_pos hc, splitOnChar_append_sep, splitOnChar_of_not_mem _ _ hl, hs]
  simp only [List.cons_append]
  -- the components after the first are `mid ++ [leaf]`: at least one, so the third arm is taken
  cases hr : mid ++ [leaf] with
  | nil => exact absurd hr (List.append_ne_nil_of_right_ne_nil _ (List.cons_ne_nil _ _))
  | cons r rs =>
    simp only [List.nil_append]
    rw [← hr, List.dropLast_concat, List.getLast?_concat, Option.getD_some,
      joinWith_append_singleton, joinWith_head_append, lstripDash_joinWith, hP]

theorem negOne_flat (np : Str) {o : Str} (hd : '.' ∉ o) :
    negOne np o = if o.head? = some '-' then some (np ++ lstripDash o) else none := by
  rw [negOne, if_neg (mt (contains_dot_iff o).mp hd)]

/-- **Shape, undotted spelling**: the negative prefix replaces the leading dashes. -/
theorem c12_neg_shape_flat (np o : Str) (hd : '.' ∉ o) (hh : o.head? = some '-') :
    negOne np o = some (np ++ lstripDash o) := by
  rw [negOne_flat np hd, if_pos hh]

/-- the review's form: `--path.leaf ↦ --path.noleaf` for every path (any number of dots) -/
theorem c12_neg_shape_long (path leaf : Str) (hp : path.head? ≠ some '-') (hl : '.' ∉ leaf) :
    negOne "--no".toList ("--".toList ++ path ++ '.' :: leaf) =
      some ("--".toList ++ path ++ ".no".toList ++ leaf) := by
  rw [c12_neg_shape _ _ _ hl]
  simp only [String.toList_lit rfl, List.cons_append, List.nil_append, lstripDash_dash,
    leadingDashes_dash, lstripDash_of_head path hp, List.append_assoc]
  rfl

example : negOne "--no".toList "--train.a.debug".toList = some "--train.a.nodebug".toList := by decide_lit

/-- **When set-up raises**: exactly for a spelling without a dot that does not start with a dash
    (`NotImplementedError`, positional). -/
theorem c12_neg_fails_iff (np o : Str) :
    negOne np o = none ↔ ('.' ∉ o ∧ o.head? ≠ some '-') := by
  by_cases hd : '.' ∈ o
  · obtain ⟨P, leaf, rfl, hl⟩ := exists_rpartition hd
    simp only [c12_neg_shape _ _ _ hl, hd, reduceCtorEq, not_true, false_and]
  · rw [negOne_flat np hd]
    split <;> simp [*]

theorem negLoop_cons {np : Str} (acc : List Str) {o : Str} (os : List Str) {n : Str}
    (hn : negOne np o = some n) :
    ∃ acc', (∀ x, x ∈ acc' ↔ x ∈ acc ∨ x = n) ∧ negLoop np acc (o :: os) = negLoop np acc' os := by
  have happ : ∀ x, x ∈ acc ++ [n] ↔ x ∈ acc ∨ x = n := fun x => by
    rw [List.mem_append, List.mem_singleton]
  have e : negLoop np acc (o :: os) = if o.contains '.' then negLoop np (acc ++ [n]) os
      else if n ∈ acc then negLoop np acc os else negLoop np (acc ++ [n]) os := by
    rw [negLoop, hn]
  by_cases hdot : o.contains '.' = true
  · exact ⟨_, happ, e.trans (if_pos hdot)⟩
  · by_cases hin : n ∈ acc
    · exact ⟨acc, fun x => ⟨Or.inl, fun h => h.elim id (fun e => e ▸ hin)⟩,
        e.trans ((if_neg hdot).trans (if_pos hin))⟩
    · exact ⟨_, happ, e.trans ((if_neg hdot).trans (if_neg hin))⟩

theorem negLoop_eq_none_iff {np : Str} {acc opts : List Str} :
    negLoop np acc opts = none ↔ ∃ o ∈ opts, negOne np o = none := by
  induction opts generalizing acc with
  | nil => exact ⟨nofun, fun ⟨_, ho, _⟩ => (List.not_mem_nil ho).elim⟩
  | cons o os ih =>
    cases hn : negOne np o with
    | none => exact iff_of_true (by rw [negLoop, hn]) ⟨o, List.mem_cons_self, hn⟩
    | some n =>
      obtain ⟨acc', _, e⟩ := negLoop_cons acc os hn
      simp only [e, ih (acc := acc'), List.mem_cons, exists_eq_or_imp, hn, reduceCtorEq, false_or]

theorem mem_negLoop {np : Str} {acc opts l : List Str} (h : negLoop np acc opts = some l) (n : Str) :
    n ∈ l ↔ n ∈ acc ∨ ∃ o ∈ opts, negOne np o = some n := by
  induction opts generalizing acc with
  | nil =>
    cases h
    exact ⟨Or.inl, fun h => h.elim id fun ⟨_, ho, _⟩ => (List.not_mem_nil ho).elim⟩
  | cons o os ih =>
    cases hn : negOne np o with
    | none =>
      rw [negLoop_eq_none_iff.mpr ⟨o, List.mem_cons_self, hn⟩] at h
      cases h
    | some m =>
      obtain ⟨acc', hacc, e⟩ := negLoop_cons acc os hn
      simp only [ih (e ▸ h), hacc, List.mem_cons, exists_eq_or_imp, hn, Option.some.injEq, or_assoc,
        @eq_comm _ n m]

/-- **Counterparts, both directions**: the generated negative options are exactly the images of the
    positive spellings — every spelling has its counterpart and nothing else is generated. -/
theorem c12_neg_counterpart_iff {np : Str} {opts l : List Str} (h : negLoop np [] opts = some l) (n : Str) :
    n ∈ l ↔ ∃ o ∈ opts, negOne np o = some n := by
  simpa using mem_negLoop h n

/-- **Every spelling that starts with a dash gets a negative counterpart** (the option strings of a
    non-positional field all start with a dash, see `c12_e2e_counterpart`): set-up does not raise and
    each positive spelling `o` has `negOne np o` among the negative option strings. -/
theorem c12_neg_counterpart (np : Str) (opts : List Str) (h : ∀ o ∈ opts, o.head? = some '-') :
    ∃ l, negLoop np [] opts = some l ∧ ∀ o ∈ opts, ∃ n ∈ l, negOne np o = some n := by
  have hne : ∀ o ∈ opts, negOne np o ≠ none := fun o ho hnone =>
    ((c12_neg_fails_iff np o).mp hnone).2 (h o ho)
  cases hl : negLoop np [] opts with
  | none =>
    obtain ⟨o, ho, hnone⟩ := negLoop_eq_none_iff.mp hl
    exact absurd hnone (hne o ho)
  | some l =>
    refine ⟨l, rfl, fun o ho => ?_⟩
    obtain ⟨n, hn⟩ := Option.ne_none_iff_exists'.mp (hne o ho)
    exact ⟨n, (c12_neg_counterpart_iff hl n).mpr ⟨o, ho, hn⟩, hn⟩

/-- set-up raises iff some spelling is positional-looking -/
theorem c12_neg_loop_fails_iff (np : Str) (opts : List Str) :
    negLoop np [] opts = none ↔ ∃ o ∈ opts, '.' ∉ o ∧ o.head? ≠ some '-' := by
  simp only [negLoop_eq_none_iff, c12_neg_fails_iff]

example : ∀ o ∈ ["-v".toList, "--v".toList, "--a.b.v".toList, "--a.b.my-flag".toList], o.head? = some '-' := by decide_lit

/-! #### no collisions -/

/-- Both shapes at once, by putting a dot in front: the undashed spelling is `A ++ "." ++ leaf` with a dot-free `leaf`
    (`A` empty for an undotted spelling), its undashed counterpart `A ++ "." ++ word ++ leaf`. -/
theorem negOne_shape {np o n : Str} (h : negOne np o = some n) :
    ∃ A leaf b, '.' ∉ leaf ∧ '.' :: lstripDash o = A ++ '.' :: leaf ∧
      n = List.replicate (leadingDashes np) '-' ++ b ∧ '.' :: b = A ++ '.' :: (lstripDash np ++ leaf) := by
  by_cases hdot : '.' ∈ o
  · obtain ⟨P, leaf, rfl, hl⟩ := exists_rpartition hdot
    rw [c12_neg_shape _ _ _ hl] at h
    cases h
    exact ⟨'.' :: lstripDash P, leaf, _, hl, by rw [lstripDash_append_ne _ _ _ (by decide)]; rfl,
      List.append_assoc _ _ _, rfl⟩
  · rw [negOne_flat np hdot] at h
    split at h <;> cases h
    have hl : '.' ∉ lstripDash o := fun hm =>
      hdot (dashes_append_lstripDash o ▸ List.mem_append_right _ hm)
    exact ⟨[], lstripDash o, _, hl, rfl,
      by rw [← List.append_assoc, dashes_append_lstripDash], rfl⟩

/-- **Injectivity**: two positive spellings with the same number of leading dashes and the same
    negative counterpart are the same spelling — for every negative prefix (even one that contains
    dots), every path depth. -/
theorem c12_neg_injective (np o o' n : Str) (hd : leadingDashes o = leadingDashes o')
    (h : negOne np o = some n) (h' : negOne np o' = some n) : o = o' := by
  obtain ⟨A, leaf, b, hl, ho, hn, hb⟩ := negOne_shape h
  obtain ⟨A', leaf', b', hl', ho', hn', hb'⟩ := negOne_shape h'
  obtain rfl : b = b' := List.append_cancel_left (hn.symm.trans hn')
  -- the same number of dots follows `A` and `A'` (those of the prefix's word), so both split `"." ++ b`
  -- at the same dot
  have hc : (lstripDash np ++ leaf).count '.' = (lstripDash np ++ leaf').count '.' := by
    rw [List.count_append, List.count_append, List.count_eq_zero.mpr hl, List.count_eq_zero.mpr hl']
  obtain ⟨rfl, hw⟩ := append_sep_inj hc (hb.symm.trans hb')
  obtain rfl : leaf = leaf' := List.append_cancel_left hw
  exact eq_of_dashes_of_body hd (List.tail_eq_of_cons_eq (ho.trans ho'.symm))

/-- the full statement without the dash-count hypothesis is FALSE for the code: `-a` and `--a` share
    `--noa` (deliberately, custom_actions.py:118-120) -/
def NegInjectiveAll : Prop :=
  ∀ np o o' n : Str, negOne np o = some n → negOne np o' = some n → o = o'

theorem c12_neg_injective_witness : ¬ NegInjectiveAll := by
  intro h
  have hw : negOne "--no".toList "-a".toList = some "--noa".toList ∧
      negOne "--no".toList "--a".toList = some "--noa".toList ∧ "-a".toList ≠ "--a".toList := by decide_lit
  exact hw.2.2 (h _ _ _ _ hw.1 hw.2.1)

/-- **Same-named fields registered at different destinations never collide**: the option lists of
    two actions whose spellings all have the same number `k` of leading dashes (the long spellings,
    `k = 2`) and are pairwise different have disjoint negative option strings. -/
theorem c12_neg_no_collision (np : Str) (k : Nat) (opts opts' l l' : List Str)
    (hk : ∀ o ∈ opts, leadingDashes o = k) (hk' : ∀ o ∈ opts', leadingDashes o = k)
    (hdis : ∀ o ∈ opts, o ∉ opts')
    (hl : negLoop np [] opts = some l) (hl' : negLoop np [] opts' = some l') :
    ∀ n ∈ l, n ∉ l' := by
  intro n hn hn'
  obtain ⟨o, ho, e⟩ := (c12_neg_counterpart_iff hl n).mp hn
  obtain ⟨o', ho', e'⟩ := (c12_neg_counterpart_iff hl' n).mp hn'
  have := c12_neg_injective np o o' n ((hk o ho).trans (hk' o' ho').symm) e e'
  subst this
  exact hdis o ho ho'

example : negOne "--disable_".toList "--my-flag".toList = some "--disable_my-flag".toList := by
  decide_lit
-- hypotheses of `c12_neg_injective` / `c12_neg_no_collision` on the long spellings of two destinations
example : leadingDashes "--train.debug".toList = leadingDashes "--valid.debug".toList := by decide_lit
example : (∀ o ∈ ["--train.debug".toList, "--train.my-debug".toList], leadingDashes o = 2) ∧
    (∀ o ∈ ["--train.debug".toList, "--train.my-debug".toList], o ∉ ["--valid.debug".toList]) := by decide_lit
example : negLoop "--no".toList [] ["--train.debug".toList, "--train.my-debug".toList]
    = some ["--train.nodebug".toList, "--train.nomy-debug".toList] := by decide_lit
example : negLoop "--no".toList [] ["--valid.debug".toList] = some ["--valid.nodebug".toList] := by decide_lit

/-! #### the explicit `negative_option` (custom_actions.py:65-95)

  Both former open findings of this section are fixed in the code (repo 7335e5b: no `assert` on the
  conflict prefix; repo c681aea: the prefix is dashed under DASH), so the full statements are theorems. -/

/-- FULL statement of "the declared negative option carries the same conflict prefix as the positive
    one": exactly one negative option string, namely dashes + prefix + the declared word — for EVERY
    prefix (with or without a final dot, user prefix included). -/
def ExplicitCarriesPrefix : Prop :=
  ∀ no cp : Str, ∃ k, negExplicit no cp = some [List.replicate k '-' ++ cp ++ lstripDash no]

/-- the closed form, with the number of dashes: those of the declared option when it has some, else two
    — one only for an unprefixed single character -/
theorem negExplicit_eq (no cp : Str) :
    negExplicit no cp = some [List.replicate (if no.head? = some '-' then leadingDashes no
      else if (cp ++ no).length > 1 then 2 else 1) '-' ++ cp ++ lstripDash no] := by
  fun_cases negExplicit no cp with
  | case1 _ hd => rw [if_pos hd]
  | case2 _ hd => rw [if_neg hd, lstripDash_of_head no hd]

/-- **the full statement holds** (it was refuted by `"silent"`, `"x_"` before repo fix 7335e5b) -/
theorem c12_explicit_prefix : ExplicitCarriesPrefix :=
  fun no cp => ⟨_, negExplicit_eq no cp⟩

/-- set-up never raises on the explicit branch, whatever the conflict prefix -/
theorem c12_explicit_never_raises (no cp : Str) : negExplicit no cp ≠ none := by
  rw [negExplicit_eq]
  exact Option.some_ne_none _

/-- **the declared negative options of the same field at different conflict prefixes never collide** -/
theorem c12_explicit_injective (no cp cp' : Str) (l : List Str)
    (h : negExplicit no cp = some l) (h' : negExplicit no cp' = some l) : cp = cp' := by
  rw [negExplicit_eq] at h h'
  have e := List.append_cancel_right
    (List.head_eq_of_cons_eq ((Option.some.inj h).trans (Option.some.inj h').symm))
  by_cases hd : no.head? = some '-'
  · rw [if_pos hd, if_pos hd] at e
    exact List.append_cancel_left e
  · rw [if_neg hd, if_neg hd] at e
    -- an undashed word gets one dash only when unprefixed and a single character: were the numbers
    -- of dashes different, one prefix would be the other with a dash in front, too long for one dash
    have hne : ∀ a b : Str, (a ++ no).length > 1 → ¬(b ++ no).length > 1 →
        List.replicate 2 '-' ++ a ≠ List.replicate 1 '-' ++ b := fun a b ha hb e => by
      cases e
      exact hb (Nat.lt_succ_of_lt ha)
    split at e <;> split at e
    · exact List.append_cancel_left e
    · exact absurd e (hne cp cp' ‹_› ‹_›)
    · exact absurd e.symm (hne cp' cp ‹_› ‹_›)
    · exact List.append_cancel_left e

-- regression: the former witness of the open finding C12-explicit-neg-user-prefix (was `none`)
example : negExplicit "silent".toList "x_".toList = some ["--x_silent".toList] := by decide_lit
example : negExplicit "--quiet".toList "x".toList = some ["--xquiet".toList] := by decide_lit
example : negExplicit "silent".toList "train.".toList = some ["--train.silent".toList] := by decide_lit
example : negExplicit "-s".toList "a.b.".toList = some ["-a.b.s".toList] := by decide_lit
example : negExplicit "q".toList [] = some ["-q".toList] := by decide_lit

/-! ### which occurrence a command-line token is, and the whole path of one bool field

  `BoolE2E.classify` mirrors `used_negative_flag = option_string in self.negative_option_strings`
  (custom_actions.py:156); `BoolE2E.run` composes option_strings (Model/Naming) → negative option
  strings → classification → the occurrence algebra, and is compared with the real parser end to end
  (op `bool.e2e`: real option strings, real negative option strings, real outcome). -/
section
open SpVerif.BoolE2E

theorem classify_neg (pos : List Str) {negs : List Str} {n : Str} (hn : n ∈ negs) :
    classify pos negs ⟨n, none⟩ = some .neg ∧
      ∀ w, classify pos negs ⟨n, some w⟩ = some (.negValued w) :=
  ⟨if_pos hn, fun _ => if_pos hn⟩

/-- **a negative option string IS a negative occurrence** (item: `n ∈ negStrings … → classify … n = .neg`) -/
theorem c12_classify_neg (pos : List Str) (np : Str) (no : Option Str) (cp : Str) (negs : List Str)
    (_h : negStrings pos np no cp = some negs) (n : Str) (hn : n ∈ negs) :
    classify pos negs ⟨n, none⟩ = some .neg ∧
      ∀ w, classify pos negs ⟨n, some w⟩ = some (.negValued w) :=
  classify_neg pos hn

/-- a positive spelling that is not also a negative one is a bare / valued occurrence -/
theorem c12_classify_pos (pos negs : List Str) (p : Str) (hp : p ∈ pos) (hn : p ∉ negs) :
    classify pos negs ⟨p, none⟩ = some .bare ∧
      ∀ w, classify pos negs ⟨p, some w⟩ = some (.valued w) :=
  ⟨(if_neg hn).trans (if_pos hp), fun _ => (if_neg hn).trans (if_pos hp)⟩

/-- the negative test comes first: a string that is both (alias `nox` next to `x`) is read as negative -/
theorem c12_classify_neg_first (pos negs : List Str) (p : Str) (hn : p ∈ negs) :
    classify pos negs ⟨p, none⟩ = some .neg :=
  (classify_neg pos hn).1

open SpVerif.BoolE2E in
example : classify ["--x".toList, "--nox".toList] ["--nox".toList, "--nonox".toList] ⟨"--nox".toList, none⟩
    = some .neg := by decide_lit
open SpVerif.BoolE2E in
example : classify ["-v".toList, "--v".toList] ["--nov".toList] ⟨"-v".toList, some "No".toList⟩
    = some (.valued "No".toList) := by decide_lit

/-- **End to end, every configuration**: for every dash variant, generation mode, nested mode, name,
    prefix, destination and alias list of a non-positional bool field and every negative prefix, the
    parser can be built (no explicit negative option ⇒ set-up never raises) and EVERY spelling of the
    positive option has its negative counterpart `negOne np p` among the negative option strings. -/
theorem c12_e2e_counterpart (s : Setup) (hpos : s.fw.positional = false) (hno : s.negOption = none) :
    ∃ negs, optionsOf s = some (optionStrings s.cfg s.fw, negs) ∧
      ∀ p ∈ optionStrings s.cfg s.fw, ∃ n ∈ negs, negOne s.negPrefix p = some n := by
  obtain ⟨l, hl, hc⟩ := c12_neg_counterpart s.negPrefix (optionStrings s.cfg s.fw)
    (optionStrings_head s.cfg s.fw hpos)
  refine ⟨l, ?_, hc⟩
  simp [optionsOf, negStrings, hno, hl]

theorem mapM_append_singleton {α β} {f : α → Option β} {l : List α} {a : α} {l' : List β} {b : β}
    (h1 : l.mapM f = some l') (h2 : f a = some b) : (l ++ [a]).mapM f = some (l' ++ [b]) := by
  rw [List.mapM_append, h1, List.mapM_cons, h2, List.mapM_nil]
  rfl

theorem mem_of_mapM {α β} {f : α → Option β} {l : List α} {l' : List β} (h : l.mapM f = some l')
    {a : α} (ha : a ∈ l) : ∃ b ∈ l', f a = some b := by
  induction l generalizing l' with
  | nil => cases ha
  | cons x xs ih =>
    simp only [List.mapM_cons, Option.bind_eq_bind, Option.bind_eq_some_iff, Option.pure_def,
      Option.some.injEq] at h
    obtain ⟨y, hy, ys, hys, rfl⟩ := h
    rcases List.mem_cons.mp ha with rfl | ha
    · exact ⟨y, List.mem_cons_self, hy⟩
    · obtain ⟨b, hb, e⟩ := ih hys ha
      exact ⟨b, List.mem_cons_of_mem y hb, e⟩

theorem run_eq (e : Nat) {s : Setup} (d : Option Bool) {pos negs : List Str}
    (hs : optionsOf s = some (pos, negs)) {ts : List Tok} {occs : List Occ}
    (hts : ts.mapM (classify pos negs) = some occs) : run e s d ts = .res (flagResult e d occs) := by
  simp only [run, hs, hts]

/-- **End to end, the negative option yields False and the positive one True, last wins**: on a parser
    that can be built, a command line of acceptable occurrences that ends with a negative option string
    gives `False`; ending with a positive spelling (that is not also a negative one) gives `True`, ending
    with `p v` gives the boolean named by `v` — whatever the default and whatever came before. -/
theorem c12_e2e_last_wins (e : Nat) (s : Setup) (d : Option Bool) (pos negs : List Str)
    (hs : optionsOf s = some (pos, negs)) (ts : List Tok) (occs : List Occ)
    (hts : ts.mapM (classify pos negs) = some occs) (hall : ∀ x ∈ occs, ∃ bx, Accepts e x bx) :
    (∀ n ∈ negs, run e s d (ts ++ [⟨n, none⟩]) = .res (.ok false)) ∧
    (∀ p ∈ pos, p ∉ negs → run e s d (ts ++ [⟨p, none⟩]) = .res (.ok true)) ∧
    (∀ p ∈ pos, p ∉ negs → ∀ w b, str2bool w = some b →
        run e s d (ts ++ [⟨p, some w⟩]) = .res (.ok b)) := by
  -- a last token classified as `o`, accepted with value `b`, decides the outcome
  have last : ∀ (t : Tok) (o : Occ) (b : Bool), classify pos negs t = some o → Accepts e o b →
      run e s d (ts ++ [t]) = .res (.ok b) := fun t o b hc ho => by
    rw [run_eq e d hs (mapM_append_singleton hts hc),
      c12_last_wins e d occs o b hall ho]
  exact ⟨fun n hn => last _ _ _ (c12_classify_neg_first pos negs n hn) (c12_negative e),
    fun p hp hpn => last _ _ _ (c12_classify_pos pos negs p hp hpn).1 (c12_bare e),
    fun p hp hpn w b hw => last _ _ _ ((c12_classify_pos pos negs p hp hpn).2 w) (c12_valued e w b hw)⟩

/-- a value on a negative option string is rejected with status 2, end to end -/
theorem c12_e2e_neg_value_rejected (s : Setup) (d : Option Bool) (pos negs : List Str)
    (hs : optionsOf s = some (pos, negs)) (ts : List Tok) (occs : List Occ)
    (hts : ts.mapM (classify pos negs) = some occs) (n w : Str) (hn : n ∈ negs)
    (hmem : (⟨n, some w⟩ : Tok) ∈ ts) : run 2 s d ts = .res (.exit 2) := by
  obtain ⟨o, ho, hc⟩ := mem_of_mapM hts hmem
  rw [(classify_neg pos hn).2 w] at hc
  cases hc
  rw [run_eq 2 d hs hts, c12_neg_value_rejected d occs w ho]

/-! non-vacuity of the end-to-end theorems: a concrete configuration (DASH variant, BOTH generation
    mode, conflict prefix `train.`, name with an underscore) -/
section
open SpVerif.BoolE2E
def exSetup : Setup :=
  { cfg := ⟨.both, .both, .default⟩,
    fw := { name := "my_flag".toList, pref := "train.".toList, dest := "cfg.train.my_flag".toList, aliases := [] },
    negPrefix := "--no".toList, negOption := none }
attribute [lit] exSetup
example : optionsOf exSetup = some (
    ["--train.my_flag".toList, "--train.my-flag".toList, "--cfg.train.my_flag".toList, "--cfg.train.my-flag".toList],
    ["--train.nomy_flag".toList, "--train.nomy-flag".toList, "--cfg.train.nomy_flag".toList, "--cfg.train.nomy-flag".toList]) := by
  decide_lit
example : exSetup.fw.positional = false ∧ exSetup.negOption = none := ⟨rfl, rfl⟩
example : run 2 exSetup (some true)
    [⟨"--train.my-flag".toList, none⟩, ⟨"--cfg.train.my_flag".toList, some "No".toList⟩,
     ⟨"--cfg.train.nomy-flag".toList, none⟩] = .res (.ok false) := by decide_lit
-- regression (was `.setupRaise` before repo fix 7335e5b): a user prefix without a final dot
example : run 2 { exSetup with negOption := some "silent".toList, fw := { exSetup.fw with pref := "x_".toList } }
    (some true) [⟨"--x_silent".toList, none⟩] = .res (.ok false) := by decide_lit
end

/-! #### the declared negative option against the prefix the POSITIVE option shows -/

/-- the conflict prefix as the positive flat spelling shows it (field_wrapper.py:598,602-603): the
    whole `prefix + name` is dashified under `DashVariant.DASH` -/
def posPrefix (cfg : Cfg) (fw : FW) : Str :=
  if cfg.dash = .dashOnly then dashify fw.pref else fw.pref

theorem flatCand_prefix (cfg : Cfg) (fw : FW) :
    ∃ leaf, flatCand cfg fw = posPrefix cfg fw ++ leaf := by
  unfold flatCand posPrefix
  by_cases h : cfg.dash = .dashOnly
  · exact ⟨dashify fw.name, by simp [h, dashify]⟩
  · exact ⟨fw.name, by simp [h]⟩

/-- the prefix handed to the action is the prefix the positive option shows (repo fix c681aea) -/
theorem conflictPrefix_eq_posPrefix (cfg : Cfg) (fw : FW) : conflictPrefix cfg fw = posPrefix cfg fw := rfl

open SpVerif.BoolE2E in
/-- FULL statement, end to end: whenever the parser can be built with a declared negative option, that
    option is `dashes + (the prefix the positive option shows) + the declared word`. -/
def ExplicitMatchesPositive : Prop :=
  ∀ (s : Setup) (no : Str) (pos negs : List Str), s.negOption = some no → optionsOf s = some (pos, negs) →
    ∃ k, negs = [List.replicate k '-' ++ posPrefix s.cfg s.fw ++ lstripDash no]

/-- **the full statement holds in every configuration** — every dash variant, generation mode, nested
    mode, name, prefix (it was refuted under DASH with an underscore in the prefix before repo fix
    c681aea: positive `--my-a.flag`, negative `--my_a.silent`). -/
theorem c12_explicit_matches_positive : ExplicitMatchesPositive := by
  intro s no pos negs hno hs
  simp only [optionsOf, negStrings, hno, conflictPrefix_eq_posPrefix, negExplicit_eq, Option.some.injEq,
    Prod.mk.injEq] at hs
  exact ⟨_, hs.2.symm⟩

/-- with a declared negative option the parser can always be built, and there is exactly one negative
    option string -/
theorem c12_explicit_e2e_total (s : Setup) (no : Str) (hno : s.negOption = some no) :
    ∃ n, optionsOf s = some (optionStrings s.cfg s.fw, [n]) := by
  simp only [optionsOf, negStrings, hno, negExplicit_eq]
  exact ⟨_, rfl⟩

section
open SpVerif.BoolE2E
/-- regression: the former witness of the open finding C12-explicit-neg-dash-variant -/
def exDashSetup : Setup :=
  { cfg := ⟨.dashOnly, .flat, .default⟩,
    fw := { name := "flag".toList, pref := "my_a.".toList, dest := "my_a.flag".toList, aliases := [] },
    negPrefix := "--no".toList, negOption := some "silent".toList }
attribute [lit] exDashSetup
example : optionsOf exDashSetup = some (["--my-a.flag".toList], ["--my-a.silent".toList]) := by decide_lit
example : exDashSetup.negOption = some "silent".toList := rfl
example : run 2 exDashSetup (some true) [⟨"--my-a.flag".toList, none⟩, ⟨"--my-a.silent".toList, none⟩]
    = .res (.ok false) := by decide_lit
end

end

/-! ### vocabulary -/

/-- concrete vocabulary table (all ten words, upper-cased too): a finite check by `decide`. -/
theorem c12_vocab_table :
    (trueStrings.all (fun w => str2bool w == some true && str2bool (w.map Char.toUpper) == some true)) = true ∧
    (falseStrings.all (fun w => str2bool w == some false && str2bool (w.map Char.toUpper) == some false)) = true := by
  decide +kernel

theorem str2bool_true_word {v : Str} (h : v ∈ trueStrings) : str2bool v = some true := by
  have := List.all_eq_true.mp c12_vocab_table.1 v h
  simp only [Bool.and_eq_true, beq_iff_eq] at this
  exact this.1

theorem str2bool_false_word {v : Str} (h : v ∈ falseStrings) : str2bool v = some false := by
  have := List.all_eq_true.mp c12_vocab_table.2 v h
  simp only [Bool.and_eq_true, beq_iff_eq] at this
  exact this.1

theorem str2bool_eq (w : Str) : str2bool w = if lower (stripWs w) ∈ trueStrings then some true
    else if lower (stripWs w) ∈ falseStrings then some false else none := rfl

/-- the vocabulary is exactly the ten words, compared after strip + lower-casing -/
theorem c12_vocab_true (w : Str) : str2bool w = some true ↔ lower (stripWs w) ∈ trueStrings := by
  rw [str2bool_eq]
  split
  · simp [*]
  · split <;> simp [*]

theorem c12_vocab_false (w : Str) : str2bool w = some false ↔ lower (stripWs w) ∈ falseStrings := by
  rw [str2bool_eq]
  split
  · next ht =>
    -- a word of both lists would name both booleans
    refine iff_of_false nofun fun hf => ?_
    cases (str2bool_true_word ht).symm.trans (str2bool_false_word hf)
  · split <;> simp [*]

theorem c12_vocab_reject (w : Str) :
    str2bool w = none ↔ (lower (stripWs w) ∉ trueStrings ∧ lower (stripWs w) ∉ falseStrings) := by
  rw [str2bool_eq]
  split
  · simp [*]
  · split <;> simp [*]

/-- **Case-insensitive**: two tokens that differ only in letter case (equal after ASCII lower-casing,
    character by character) name the same boolean — or are both rejected.  Not definitional: `str2bool`
    strips first and lower-cases second, so this needs `strip ∘ lower = lower ∘ strip`. -/
theorem c12_case_insensitive (w w' : Str) (h : w.map lowerChar = w'.map lowerChar) :
    str2bool w = str2bool w' := by
  have h' : lower w = lower w' := h
  unfold str2bool
  simp only [← stripWs_lower, h']

/-- in particular the case of the letters never matters: `str2bool w = str2bool (lower w)` -/
theorem c12_lower_invariant (w : Str) : str2bool (lower w) = str2bool w :=
  c12_case_insensitive _ _ (by show lower (lower w) = lower w; exact lower_idem w)

/-- a token that IS one of the five true-words up to letter case yields `True` (no hypothesis about
    `stripWs`: none of the words starts or ends with a blank) -/
theorem c12_true_word_any_case (w : Str) (h : lower w ∈ trueStrings) : str2bool w = some true :=
  (c12_lower_invariant w).symm.trans (str2bool_true_word h)

theorem c12_false_word_any_case (w : Str) (h : lower w ∈ falseStrings) : str2bool w = some false :=
  (c12_lower_invariant w).symm.trans (str2bool_false_word h)

example : str2bool "tRuE".toList = str2bool "TRUE".toList := c12_case_insensitive _ _ (by decide_lit)
example : str2bool "fAlSe".toList = some false := c12_false_word_any_case _ (by decide_lit)
-- the separators \x1c-\x1f are blanks for `str.strip()` (isSpace) — these two change if `isSpace` changes
example : str2bool "\x1ctrue".toList = some true := by decide_lit
example : str2bool "no\x1f".toList = some false := by decide_lit

/-! non-vacuity -/
example : flagResult 2 (some true) [.bare, .valued "No".toList, .neg, .valued " TRUE ".toList] = .ok true := by decide_lit
example : flagResult 2 (some true) [.bare, .negValued "true".toList] = .exit 2 := by decide_lit
example : ∀ x ∈ [Occ.bare, .valued "No".toList, .neg], ∃ bx, Accepts 2 x bx := by
  unfold Accepts
  decide_lit

end SpVerif.C12
