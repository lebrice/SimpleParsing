/-
  C01 — Empty command line reproduces the dataclass defaults at every destination.
  Theorems about `Model/Defaults`, for class trees of any depth and width, leaves and dataclass-typed members
  interleaved, by induction over the fields of a class (`cfields_induction`).

  Layers (each is proved from the one before):
    semantic    `c01_caller_default`, `c01_no_caller`, `c01_member_factory` under `LeafStable` / `QuietNone`
    typed       `StableDefault` (inductive, every annotation of the grammar) ⇒ `LeafStable`; `c01_caller_default_typed`
    syntactic   `WellTyped` + `modelledTy` − {`unionStr`, `literalShadowed`} ⇒ `StableDefault` (`c01_typed_defaults_partial`);
                `QuietSyn` ⇒ `QuietNone` (an Optional member left None stays None — proved);
                `OwnTyped` ⇒ `OwnStable` (`c01_no_caller_typed`); `FitsWT` ⇒ `FitsTyped` (`c01_caller_default_wellTyped`)
  Full statements kept visible and refuted: `AllDefaultsStable`, `AllTypedDefaultsStable`
  (`c01_union_default_witness`, `c01_union_default_typed_witness`, `c01_literal_collision_witness`).
-/
import SpVerif.Model.Defaults
import SpVerif.Lemmas.Fields
import SpVerif.Lemmas.Lit
namespace SpVerif.C01
open SpVerif

/-- a leaf value survives the trip "wrapper default → argparse default (string defaults go through
    `type=`) → postprocess" unchanged -/
def LeafStable (fenv : FEnv) (f : FieldSpec) (v : Val) : Prop :=
  leafEmpty fenv f (some v) false = .ok v

/-- an Optional member left at None parses back to None (its leaves' own defaults are stable) -/
def QuietNone (fenv : FEnv) (t : CTree) : Prop :=
  parseEmptyChild fenv t none .presentNone true true = .ok .nul

/-! "the instance `i` fits the class tree `t`, its leaf values are stable, and every Optional member
    holding None is quiet" — by mutual recursion on the tree; `whole` is the instance the attribute
    look-ups go to (field names are looked up by name, as `getattr` does) -/
mutual
def FitsStable (fenv : FEnv) : CTree → IVal → Prop
  | .mk cls fs, .inst cls' ifs => cls = cls' ∧ FitsStableF fenv fs ifs (.inst cls' ifs)
  | .mk _ _, .nul => False
def FitsStableF (fenv : FEnv) : CFields → IFields → IVal → Prop
  | .nil, .nil, _ => True
  | .leaf f rest, .leaf n v irest, whole =>
    n = f.name ∧ whole.getLeaf f.name = some v ∧ LeafStable fenv f v ∧ FitsStableF fenv rest irest whole
  | .child name optional _ t rest, .sub n v irest, whole =>
    n = name ∧ whole.getSub name = some v ∧
    (match v with
     | .nul => optional = true ∧ QuietNone fenv t
     | .inst c fs => FitsStable fenv t (.inst c fs)) ∧
    FitsStableF fenv rest irest whole
  | _, _, _ => False
end

/-- the annotation is inside the modelled fragment (`argOptions` answers) -/
def modelledTy (ty : FTy) : Bool :=
  match ty.optional, ty.inner with
  | true, .literal _ => false
  | false, .literal vals => (vals.mapM literalName).isSome
  | _, .tuple items => (tupleConv items).isSome
  | _, _ => true

theorem containerConv_isSome (item : ITy) : (containerConv item).isSome = true := by
  cases item with
  | base b => cases b <;> rfl
  | union a => rfl

theorem modelledTy_sc (t : ITy) (opt : Bool) : modelledTy ⟨.sc t, opt⟩ = true := by cases opt <;> rfl

theorem argOptions_isSome (f : FieldSpec) : (argOptions f).isSome = modelledTy f.ty := by
  rw [argOptions_eq, Option.isSome_map]
  obtain ⟨name, ⟨inner, opt⟩, d, als⟩ := f
  cases inner with
  | literal vals =>
    cases opt
    · exact Option.isSome_map
    · rfl
  | list item => exact Option.isSome_map.trans ((containerConv_isSome item).trans (by cases opt <;> rfl))
  | tuple items => exact Option.isSome_map.trans (by cases opt <;> rfl)
  | vtuple item => cases opt <;> rfl
  | sc t =>
    rw [argShape_sc rfl, modelledTy_sc]
    split
    · rfl
    · split <;> rfl

/-- argparse runs only string defaults through `type=`: any other default is handed to `postprocess` as it is -/
theorem leafEmpty_nonstring {fenv : FEnv} {f : FieldSpec} {opt : Bool} {w : Val} (hm : modelledTy f.ty = true)
    (hreq : f.default = .missing → opt = true) (hns : ∀ s, defaultVal f.default ≠ .sc (.str s))
    (hen : argDefault f = defaultVal f.default) (hp : postprocess f (defaultVal f.default) = .ok w) :
    leafEmpty fenv f none opt = .ok w := by
  obtain ⟨ao, hao⟩ := Option.isSome_iff_exists.mp ((argOptions_isSome f).trans hm)
  have hreq' : (ao.required && !opt) = false := by
    cases hr' : ao.required
    · rfl
    · rw [hreq (argOptions_required hao hr').1]; rfl
  have hd : ao.default = defaultVal f.default := (argOptions_some hao).2.2.trans hen
  obtain ⟨name, ty, d, als⟩ := f
  unfold leafEmpty
  -- `hns` discharges the side condition of the catch-all arm of the match on the argparse default
  simp only [hao, hreq', hd, hp, Bool.false_eq_true, ↓reduceIte]

/-- a leaf with a default is never required, so it parses the same inside an Optional member as outside -/
theorem leafEmpty_value_opt (fenv : FEnv) (f : FieldSpec) (v : Val) (opt : Bool) :
    leafEmpty fenv f (some v) opt = leafEmpty fenv f (some v) false := by
  unfold leafEmpty
  dsimp only
  cases hao : argOptions { f with default := .value v } with
  | none => rfl
  | some ao =>
    have hr : ao.required = false :=
      Bool.eq_false_iff.mpr fun h => DefaultV.noConfusion (argOptions_required hao h).1
    simp only [hr, Bool.false_and]

theorem leafEmpty_own (fenv : FEnv) {f : FieldSpec} {v : Val} (o : Bool) (hd : f.default = .value v) :
    leafEmpty fenv f none o = leafEmpty fenv f (some v) o := by
  obtain ⟨name, ty, d, als⟩ := f
  subst hd
  rfl

theorem leafEmpty_missing (fenv : FEnv) (f : FieldSpec) (hd : f.default = .missing) (hm : modelledTy f.ty = true) :
    leafEmpty fenv f none true = .ok (.sc .none) := by
  obtain ⟨name, ty, d, als⟩ := f
  subst hd
  exact leafEmpty_nonstring hm (fun _ => rfl) (fun _ h => Scalar.noConfusion (Val.sc.inj h))
    (argDefault_eq _ fun _ _ => nofun) (postprocess_sc _ _ fun _ => Scalar.noConfusion)

theorem leafStable_nonstring {fenv : FEnv} {f : FieldSpec} {v : Val} (hm : modelledTy f.ty = true)
    (hns : ∀ s, v ≠ .sc (.str s)) (hen : argDefault { f with default := .value v } = v) (hp : postprocess f v = .ok v) :
    LeafStable fenv f v :=
  leafEmpty_nonstring (f := { f with default := .value v }) hm DefaultV.noConfusion hns hen hp

theorem leafStable_scalar {fenv : FEnv} {f : FieldSpec} {s : Scalar} (hm : modelledTy f.ty = true)
    (hs : ∀ x, s ≠ .str x) (hen : argDefault { f with default := .value (.sc s) } = .sc s) :
    LeafStable fenv f (.sc s) :=
  leafStable_nonstring hm (fun x h => hs x (Val.sc.inj h)) hen (postprocess_sc f s hs)

theorem leafStable_string {fenv : FEnv} {f : FieldSpec} {v : Val} {ao : ArgOpts} {s : Str} {x : Scalar}
    (hao : argOptions { f with default := .value v } = some ao) (hreq : ao.required = false)
    (hd : ao.default = .sc (.str s)) (hc : ao.conv.apply fenv 0 s = .ok x) (hp : postprocess f (.sc x) = .ok v) :
    LeafStable fenv f v := by
  unfold LeafStable leafEmpty
  simp only [hao, hreq, hd, hc, hp, Bool.false_and, Bool.false_eq_true, ↓reduceIte]

/-! ### stability of ordinary leaves (sufficient conditions) -/

theorem find_reverse_unique (vals : List Scalar) (v : Scalar) (p : Scalar → Bool) (hv : v ∈ vals) (hp : p v = true)
    (hu : ∀ w ∈ vals, p w = true → w = v) : vals.reverse.find? p = some v := by
  cases hf : vals.reverse.find? p with
  | none =>
    have := List.find?_eq_none.mp hf v (List.mem_reverse.mpr hv)
    exact absurd hp this
  | some w =>
    have hw := List.find?_some hf
    have hm := List.mem_reverse.mp (List.mem_of_find?_eq_some hf)
    rw [hu w hm hw]

/-- the syntactic sufficient condition: the value is one of the Literal's values and no OTHER value has the same name -/
theorem literal_finds_itself (vals : List Scalar) (v : Scalar) (hv : v ∈ vals)
    (hu : ∀ w ∈ vals, literalName w = literalName v → w = v) :
    ∀ s, v = .str s → vals.reverse.find? (fun w => literalName w = some s) = some v := by
  rintro s rfl
  exact find_reverse_unique vals (.str s) _ hv (decide_eq_true rfl) fun w hw h => hu w hw (of_decide_eq_true h)

/-- "the value `v` is a default of annotation `t` that the cascade returns unchanged": every
    annotation of the command-line grammar with a value of its type, EXCEPT a string held by a
    Union-typed (or int/float-typed) leaf and a Literal value shadowed by another value of the same name -/
inductive StableDefault : FTy → Val → Prop
  | list (item opt xs) : StableDefault { inner := .list item, optional := opt } (.list xs)
  | vtuple (item opt xs) : StableDefault { inner := .vtuple item, optional := opt } (.tuple xs)
  | tuple (items opt xs) (h : tupleConv items ≠ none) : StableDefault { inner := .tuple items, optional := opt } (.tuple xs)
  | optNone (n) (h : modelledTy { inner := n, optional := true } = true) : StableDefault { inner := n, optional := true } (.sc .none)
  | str (opt s) : StableDefault { inner := .sc (.base .str), optional := opt } (.sc (.str s))
  | anyStr (opt s) : StableDefault { inner := .sc (.base .any), optional := opt } (.sc (.str s))
  | bool (opt b) : StableDefault { inner := .sc (.base .bool), optional := opt } (.sc (.bool b))
  | path (opt p) : StableDefault { inner := .sc (.base .path), optional := opt } (.sc (.path p))
  | enum (cls ms m) (h : m ∈ ms) : StableDefault { inner := .sc (.base (.enum cls ms)), optional := false } (.sc (.enum cls m))
  | enumOpt (cls ms m) : StableDefault { inner := .sc (.base (.enum cls ms)), optional := true } (.sc (.enum cls m))
  | plain (b opt v) (hb : b = .int ∨ b = .float ∨ b = .any) (hv : ∀ s, v ≠ .str s) (hn : v ≠ .none) :
      StableDefault { inner := .sc (.base b), optional := opt } (.sc v)
  | union (alts opt v) (hv : ∀ s, v ≠ .str s) (hn : v ≠ .none) :
      StableDefault { inner := .sc (.union alts), optional := opt } (.sc v)
  | literal (vals v) (hn : vals.mapM literalName ≠ none)
      (hf : ∀ s, v = .str s → vals.reverse.find? (fun w => literalName w = some s) = some v) :
      StableDefault { inner := .literal vals, optional := false } (.sc v)

/-- **leaf stability is provable, not assumed, on the grammar**: the hypothesis `LeafStable` of the
    C01 theorems holds for every leaf whose (instance or own) default value is a `StableDefault` of
    its annotation — whatever the field's name, aliases and declared default. -/
theorem leafStable_of_stableDefault (fenv : FEnv) {f : FieldSpec} {v : Val}
    (h : StableDefault f.ty v) : LeafStable fenv f v := by
  obtain ⟨name, ty, d, als⟩ := f
  cases h with
  -- containers: never a string; `postprocess` only fixes the container kind the value already has
  | list item opt xs =>
    exact leafStable_nonstring (by cases opt <;> rfl) (fun _ => Val.noConfusion) rfl (by cases opt <;> rfl)
  | vtuple item opt xs =>
    exact leafStable_nonstring (by cases opt <;> rfl) (fun _ => Val.noConfusion) rfl (by cases opt <;> rfl)
  | tuple items opt xs hc =>
    exact leafStable_nonstring (by cases opt <;> exact Option.isSome_iff_ne_none.mpr hc) (fun _ => Val.noConfusion)
      rfl (by cases opt <;> rfl)
  | optNone n hm => exact leafStable_scalar hm (fun _ => Scalar.noConfusion) (argDefault_eq _ fun _ _ => nofun)
  | bool opt b => exact leafStable_scalar (modelledTy_sc _ opt) (fun _ => Scalar.noConfusion) rfl
  | path opt p => exact leafStable_scalar (modelledTy_sc _ opt) (fun _ => Scalar.noConfusion) rfl
  | enumOpt cls ms m =>
    -- `Optional[Enum]`: the member itself is the argparse default (no name round trip)
    exact leafStable_scalar rfl (fun _ => Scalar.noConfusion) rfl
  | plain b opt v hb hv hn =>
    exact leafStable_scalar (modelledTy_sc _ opt) hv (by rcases hb with rfl | rfl | rfl <;> rfl)
  | union alts opt v hv hn =>
    -- only string defaults are run through the try-in-order parser (the open finding)
    exact leafStable_scalar (modelledTy_sc _ opt) hv rfl
  -- strings: `type=str` (resp. no `type=`) returns them
  | str opt s => cases opt <;> exact leafStable_string rfl rfl rfl rfl rfl
  | anyStr opt s => cases opt <;> exact leafStable_string rfl rfl rfl rfl rfl
  | enum cls ms m hm =>
    -- a plain Enum: by NAME through `type=str`, and `postprocess` maps the name back to the member
    exact leafStable_string (s := m) rfl rfl rfl rfl (postprocess_enum_mem rfl rfl (List.contains_iff_mem.mpr hm))
  | literal vals v hn hf =>
    by_cases hs : ∃ s, v = .str s
    · -- a string value is looked up by name in `choice_dict = {str(v): v}` (last value of each name) and must find itself
      obtain ⟨s, rfl⟩ := hs
      obtain ⟨names, hnames⟩ := Option.ne_none_iff_exists'.mp hn
      exact leafStable_string (s := s) (argOptions_of_shape (congrArg (Option.map _) hnames)) rfl rfl rfl
        ((postprocess_literal rfl rfl s).trans (by rw [hf s rfl]))
    · -- any other value is never looked up
      exact leafStable_scalar (Option.isSome_iff_ne_none.mpr hn) (fun s h => hs ⟨s, h⟩) rfl

/-- an Optional leaf holding None stays None -/
theorem stable_optional_none (fenv : FEnv) (name : Str) (als : List Str) (t : ITy) (d : DefaultV) :
    LeafStable fenv { name := name, ty := { inner := .sc t, optional := true }, default := d, aliases := als } (.sc .none) :=
  leafStable_of_stableDefault fenv (.optNone (.sc t) rfl)

/-- Induction over the fields of a class with the class of a dataclass-typed member opened up: statements about
    `CFields` go by it alone, and their `CTree` versions follow by one unfolding of `.mk`. -/
theorem cfields_induction {Q : CFields → Prop} (nil : Q .nil)
    (leaf : ∀ f rest, Q rest → Q (.leaf f rest))
    (child : ∀ name optional dflt cls fs rest, Q fs → Q rest → Q (.child name optional dflt (.mk cls fs) rest)) :
    ∀ fs, Q fs :=
  CFields.rec (motive_1 := fun t => ∀ cls fs, t = .mk cls fs → Q fs) (motive_2 := Q)
    (fun _ _ ih _ _ h => by cases h; exact ih) nil leaf
    (fun name optional dflt t rest iht ihr => by cases t; exact child name optional dflt _ _ rest (iht _ _ rfl) ihr)

/-- a member whose wrapper has a default instance is always built: the Optional rule needs `default_is_none` -/
theorem parseEmptyChild_present {fenv : FEnv} {cls : Str} {fs : CFields} {pc : Option IVal} {i : IVal}
    {optHere : Bool} {r : IFields} {ds : List (Str × Val)} (optional : Bool)
    (h : parseEmptyFields fenv fs pc (.present i) optHere = .ok (r, ds)) :
    parseEmptyChild fenv (.mk cls fs) pc (.present i) optHere optional = .ok (.inst cls r) := by
  simp [parseEmptyChild, h]

/-- **C01 (caller instance / default-factory instance).** If the wrapper's defaults hold an
    instance `whole` that fits the fields, parsing the empty command line rebuilds exactly its fields — for every
    nesting depth, for Optional members holding None or an instance, whatever the constructor-chain
    default `pc` is as long as it does not contradict `whole`. -/
theorem parseEmptyFields_instance (fenv : FEnv) (fs : CFields) :
    ∀ (ifs : IFields) (whole : IVal) (pc : Option IVal) (opt : Bool),
      (pc = none ∨ pc = some whole) → FitsStableF fenv fs ifs whole →
      ∃ ds, parseEmptyFields fenv fs pc (.present whole) opt = .ok (ifs, ds) := by
  induction fs using cfields_induction with
  | nil =>
    intro ifs whole pc opt _ h
    cases ifs with
    | nil => exact ⟨[], rfl⟩
    | _ => exact False.elim h
  | leaf f rest ih =>
    intro ifs whole pc opt hpc h
    cases ifs with
    | leaf n v irest =>
      obtain ⟨rfl, hget, hst, hrest⟩ := h
      obtain ⟨ds, hr⟩ := ih irest whole pc opt hpc hrest
      exact ⟨(f.name, v) :: ds,
        by simp only [parseEmptyFields, hget, (leafEmpty_value_opt fenv f v opt).trans hst, hr]⟩
    | _ => exact False.elim h
  | child name optional dflt cls cfs rest ihc ih =>
    intro ifs whole pc opt hpc h
    cases ifs with
    | sub n v irest =>
      obtain ⟨rfl, hget, hv, hrest⟩ := h
      obtain ⟨ds, hr⟩ := ih irest whole pc opt hpc hrest
      refine ⟨ds, ?_⟩
      cases v with
      | nul =>
        -- the member holds None: both chains say "None", the subtree is quiet
        obtain ⟨rfl, hq⟩ := hv
        have hq : parseEmptyChild fenv (.mk cls cfs) none .presentNone true true = .ok .nul := hq
        rcases hpc with rfl | rfl <;> simp only [parseEmptyFields, childDV, hget, Bool.or_true, hq, hr]
      | inst c ifs' =>
        obtain ⟨rfl, hfit⟩ := hv
        have hc : ∀ pcC, (pcC = none ∨ pcC = some (.inst cls ifs')) →
            parseEmptyChild fenv (.mk cls cfs) pcC (.present (.inst cls ifs')) (opt || optional) optional =
              .ok (.inst cls ifs') := fun pcC hp =>
          (ihc ifs' _ pcC _ hp hfit).elim fun _ h => parseEmptyChild_present optional h
        rcases hpc with rfl | rfl <;>
          simp only [parseEmptyFields, childDV, hget, hc none (.inl rfl), hc (some _) (.inr rfl), hr]
    | _ => exact False.elim h

theorem parseEmptyChild_instance (fenv : FEnv) (t : CTree) (i : IVal) (pc : Option IVal)
    (optHere optional : Bool) (hpc : pc = none ∨ pc = some i) (h : FitsStable fenv t i) :
    parseEmptyChild fenv t pc (.present i) optHere optional = .ok i := by
  cases t with | mk cls fs =>
  cases i with
  | nul => exact False.elim h
  | inst c ifs =>
    obtain ⟨rfl, hf⟩ := h
    obtain ⟨_, hr⟩ := parseEmptyFields_instance fenv fs ifs _ pc optHere hpc hf
    exact parseEmptyChild_present optional hr

/-- **C01 (caller-supplied default instance).** `add_arguments(C, dest, default=inst)` followed by an
    empty command line returns an instance equal to `inst`. -/
theorem c01_caller_default (fenv : FEnv) (t : CTree) (i : IVal) (h : FitsStable fenv t i) :
    parseEmptyTop fenv t (some i) = .ok i := by
  cases t with | mk cls fs =>
  cases i with
  | nul => exact False.elim h
  | inst c ifs =>
    obtain ⟨rfl, hf⟩ := h
    obtain ⟨_, hr⟩ := parseEmptyFields_instance fenv fs ifs _ (some (.inst cls ifs)) false (Or.inr rfl) hf
    simp only [parseEmptyTop, parseEmpty, hr]

/-! ### without a caller default: the result is what the constructor builds by itself -/

/-- the tree's own defaults are stable (every leaf has a default that survives the trip; members
    carry an instance-producing factory, or are Optional-with-None and quiet) — stated through the
    instance the constructor builds -/
def OwnDefaultsStable (fenv : FEnv) (t : CTree) : Prop :=
  ∃ i, construct t = .ok i ∧ FitsStable fenv t i

/-- a top-level class whose members are all given by default factories: parsing nothing equals
    `cls()` as soon as the wrapper sees that default — this is the per-member step the cascade
    performs (`DataclassWrapper.defaults` = `default_factory()`), lifted to any depth by
    `parseEmptyFields_instance`. -/
theorem c01_member_factory (fenv : FEnv) (t : CTree) (h : OwnDefaultsStable fenv t)
    (optHere optional : Bool) :
    ∃ i, construct t = .ok i ∧
      parseEmptyChild fenv t none (.present i) optHere optional = .ok i := by
  obtain ⟨i, hc, hf⟩ := h
  exact ⟨i, hc, parseEmptyChild_instance fenv t i none optHere optional (Or.inl rfl) hf⟩

/-- every field of the class has a default of its own that is stable: leaves survive the trip,
    dataclass-typed members are `Optional … = None` (and quiet), `default_factory=Cls` (whose own
    result fits and is stable) or `default_factory=lambda: inst` (idem) -/
def OwnStable (fenv : FEnv) : CFields → Prop
  | .nil => True
  | .leaf f rest => (∃ v, f.default = .value v ∧ leafEmpty fenv f none false = .ok v) ∧ OwnStable fenv rest
  | .child _ optional dflt t rest =>
    (match dflt with
     | .missing => False
     | .noneVal => optional = true ∧ QuietNone fenv t
     | .factoryCls => ∃ i, construct t = .ok i ∧ FitsStable fenv t i
     | .factoryInst i => FitsStable fenv t i) ∧ OwnStable fenv rest

def CFields.leafNames : CFields → List Str
  | .nil => []
  | .leaf f rest => f.name :: CFields.leafNames rest
  | .child _ _ _ _ rest => CFields.leafNames rest

def CFields.subNames : CFields → List Str
  | .nil => []
  | .leaf _ rest => CFields.subNames rest
  | .child n _ _ _ rest => n :: CFields.subNames rest

def IFields.leaves : IFields → List (Str × Val)
  | .nil => []
  | .leaf n v rest => (n, v) :: IFields.leaves rest
  | .sub _ _ rest => IFields.leaves rest

def IFields.subs : IFields → List (Str × IVal)
  | .nil => []
  | .leaf _ _ rest => IFields.subs rest
  | .sub n v rest => (n, v) :: IFields.subs rest

def IFields.leafNames : IFields → List Str
  | .nil => []
  | .leaf n _ rest => n :: IFields.leafNames rest
  | .sub _ _ rest => IFields.leafNames rest

def IFields.subNames : IFields → List Str
  | .nil => []
  | .leaf _ _ rest => IFields.subNames rest
  | .sub n _ rest => n :: IFields.subNames rest

theorem ifields_induction {Q : IFields → Prop} (nil : Q .nil) (leaf : ∀ n v rest, Q rest → Q (.leaf n v rest))
    (sub : ∀ n v rest, Q rest → Q (.sub n v rest)) : ∀ ifs, Q ifs :=
  IFields.rec (motive_1 := fun _ => True) (motive_2 := Q) (fun _ _ _ => trivial) trivial nil
    (fun n v rest ih => leaf n v rest ih) (fun n v rest _ ih => sub n v rest ih)

/-- `List.lookup` written the way `getLeaf` / `getSub` are -/
theorem lookup_cons_eq {β : Type} (k n : Str) (v : β) (l : List (Str × β)) :
    List.lookup k ((n, v) :: l) = if n = k then some v else List.lookup k l := by
  rw [List.lookup_cons]
  by_cases h : n = k
  · rw [if_pos h, beq_iff_eq.mpr h.symm]
  · rw [if_neg h, beq_false_of_ne (Ne.symm h)]

theorem getLeaf_eq_lookup (k : Str) (ifs : IFields) : ifs.getLeaf k = (IFields.leaves ifs).lookup k := by
  induction ifs using ifields_induction with
  | nil => rfl
  | leaf n v rest ih => exact (congrArg (if n = k then some v else ·) ih).trans (lookup_cons_eq k n v _).symm
  | sub _ _ rest ih => exact ih

theorem getSub_eq_lookup (k : Str) (ifs : IFields) : ifs.getSub k = (IFields.subs ifs).lookup k := by
  induction ifs using ifields_induction with
  | nil => rfl
  | leaf _ _ rest ih => exact ih
  | sub n v rest ih => exact (congrArg (if n = k then some v else ·) ih).trans (lookup_cons_eq k n v _).symm

theorem leafNames_eq (ifs : IFields) : IFields.leafNames ifs = (IFields.leaves ifs).map Prod.fst := by
  induction ifs using ifields_induction with
  | nil => rfl
  | leaf n _ rest ih => exact congrArg (n :: ·) ih
  | sub _ _ rest ih => exact ih

theorem subNames_eq (ifs : IFields) : IFields.subNames ifs = (IFields.subs ifs).map Prod.fst := by
  induction ifs using ifields_induction with
  | nil => rfl
  | leaf _ _ rest ih => exact ih
  | sub n _ rest ih => exact congrArg (n :: ·) ih

theorem lookup_self_of_nodup {β : Type} {l : List (Str × β)} (hnd : (l.map Prod.fst).Nodup) :
    ∀ p ∈ l, l.lookup p.1 = some p.2 := by
  induction l with
  | nil => exact fun _ h => nomatch h
  | cons a l ih =>
    obtain ⟨ha, hl⟩ := List.nodup_cons.mp hnd
    obtain ⟨n, v⟩ := a
    intro p hp
    rw [lookup_cons_eq]
    rcases List.mem_cons.mp hp with rfl | hp'
    · exact if_pos rfl
    · exact (if_neg fun h => ha (List.mem_map.mpr ⟨p, hp', h.symm⟩)).trans (ih hl p hp')

theorem allLeavesEq_iff {r : IFields} {ds : List (Str × Val)} :
    r.allLeavesEq ds = true ↔ ∀ p ∈ IFields.leaves r, ds.lookup p.1 = some p.2 := by
  induction r using ifields_induction with
  | nil => simp [IFields.allLeavesEq, IFields.leaves]
  | leaf n v rest ih =>
    simp only [IFields.allLeavesEq, IFields.leaves, Bool.and_eq_true, beq_iff_eq, List.mem_cons, forall_eq_or_imp, ih]
  | sub _ _ rest ih => exact ih

/-- `FitsStableF` without the attribute look-ups (they follow from distinct field names) -/
def FitsLocF (fenv : FEnv) : CFields → IFields → Prop
  | .nil, .nil => True
  | .leaf f rest, .leaf n v irest => n = f.name ∧ LeafStable fenv f v ∧ FitsLocF fenv rest irest
  | .child name optional _ t rest, .sub n v irest =>
    n = name ∧
    (match v with
     | .nul => optional = true ∧ QuietNone fenv t
     | .inst c fs => FitsStable fenv t (.inst c fs)) ∧
    FitsLocF fenv rest irest
  | _, _ => False

/-- the look-ups of `FitsStableF` go to `whole`; it is enough that `whole` answers them for the fields listed -/
theorem fitsStableF_of_loc (fenv : FEnv) : ∀ (fs : CFields) (ifs : IFields) (whole : IVal),
    FitsLocF fenv fs ifs → (∀ p ∈ IFields.leaves ifs, whole.getLeaf p.1 = some p.2) →
    (∀ p ∈ IFields.subs ifs, whole.getSub p.1 = some p.2) → FitsStableF fenv fs ifs whole := by
  intro fs
  induction fs using cfields_induction with
  | nil => intro ifs whole h _ _; cases ifs <;> exact h
  | leaf f rest ih =>
    intro ifs whole h hl hs
    cases ifs with
    | leaf n v irest =>
      obtain ⟨rfl, hst, hrest⟩ := h
      exact ⟨rfl, hl (_, v) List.mem_cons_self, hst,
        ih irest whole hrest (fun p hp => hl p (List.mem_cons_of_mem _ hp)) hs⟩
    | _ => exact h
  | child name optional dflt cls cfs rest _ ih =>
    intro ifs whole h hl hs
    cases ifs with
    | sub n v irest =>
      obtain ⟨rfl, hv, hrest⟩ := h
      exact ⟨rfl, hs (_, v) List.mem_cons_self, hv,
        ih irest whole hrest hl (fun p hp => hs p (List.mem_cons_of_mem _ hp))⟩
    | _ => exact h

theorem fitsStable_member {fenv : FEnv} {t : CTree} {optional : Bool} : ∀ {i : IVal}, FitsStable fenv t i →
    match i with
    | .nul => optional = true ∧ QuietNone fenv t
    | .inst c fs => FitsStable fenv t (.inst c fs)
  | .nul, h => by cases t; exact False.elim h
  | .inst _ _, h => h

theorem construct_fits_of_loc {fenv : FEnv} {cls : Str} {fs : CFields} {r : IFields} (hc : constructFields fs = .ok r)
    (hloc : FitsLocF fenv fs r) (hln : (IFields.leafNames r).Nodup) (hsn : (IFields.subNames r).Nodup) :
    construct (.mk cls fs) = .ok (.inst cls r) ∧ FitsStable fenv (.mk cls fs) (.inst cls r) := by
  refine ⟨by simp only [construct, hc], rfl, fitsStableF_of_loc fenv fs r _ hloc ?_ ?_⟩
  · exact fun p hp => (getLeaf_eq_lookup p.1 r).trans (lookup_self_of_nodup (leafNames_eq r ▸ hln) p hp)
  · exact fun p hp => (getSub_eq_lookup p.1 r).trans (lookup_self_of_nodup (subNames_eq r ▸ hsn) p hp)

theorem parseEmptyFields_own (fenv : FEnv) (fs : CFields) (h : OwnStable fenv fs) :
    ∃ r ds, constructFields fs = .ok r ∧ parseEmptyFields fenv fs none .absent false = .ok (r, ds) ∧
      FitsLocF fenv fs r ∧ IFields.leafNames r = CFields.leafNames fs ∧ IFields.subNames r = CFields.subNames fs := by
  induction fs using cfields_induction with
  | nil => exact ⟨.nil, [], rfl, rfl, trivial, rfl, rfl⟩
  | leaf f rest ih =>
    obtain ⟨⟨v, hd, hl⟩, hrest⟩ := h
    obtain ⟨r, ds, hc, hp, hloc, hln, hsn⟩ := ih hrest
    exact ⟨.leaf f.name v r, (f.name, defaultVal f.default) :: ds, by simp only [constructFields, hd, hc],
      by simp only [parseEmptyFields, hl, hp], ⟨rfl, (leafEmpty_own fenv false hd).symm.trans hl, hloc⟩,
      congrArg (f.name :: ·) hln, hsn⟩
  | child name optional dflt cls cfs rest _ ih =>
    obtain ⟨hd, hrest⟩ := h
    obtain ⟨r, ds, hc, hp, hloc, hln, hsn⟩ := ih hrest
    have hinst : ∀ i, FitsStable fenv (.mk cls cfs) i →
        parseEmptyChild fenv (.mk cls cfs) none (.present i) (false || optional) optional = .ok i :=
      fun i hfit => parseEmptyChild_instance fenv _ i none _ optional (Or.inl rfl) hfit
    -- in each case the constructor and the parse put the same `v` there, and it fits the member clause
    cases dflt with
    | missing => exact False.elim hd
    | noneVal =>
      obtain ⟨rfl, hq⟩ := hd
      have hq' : parseEmptyChild fenv (.mk cls cfs) none .presentNone true true = .ok .nul := hq
      exact ⟨.sub name .nul r, ds, by simp only [constructFields, hc],
        by simp only [parseEmptyFields, childDV, Bool.or_true, hq', hp], ⟨rfl, ⟨rfl, hq⟩, hloc⟩, hln, congrArg (name :: ·) hsn⟩
    | factoryCls =>
      obtain ⟨i, hci, hfit⟩ := hd
      exact ⟨.sub name i r, ds, by simp only [constructFields, hci, hc],
        by simp only [parseEmptyFields, childDV, hci, hinst i hfit, hp], ⟨rfl, fitsStable_member hfit, hloc⟩, hln,
        congrArg (name :: ·) hsn⟩
    | factoryInst i =>
      exact ⟨.sub name i r, ds, by simp only [constructFields, hc],
        by simp only [parseEmptyFields, childDV, hinst i hd, hp], ⟨rfl, fitsStable_member hd, hloc⟩, hln,
        congrArg (name :: ·) hsn⟩

/-- **C01 (no caller default).** For a class all of whose fields carry stable defaults of their
    own — at any depth, through `default_factory` members and Optional members — parsing the empty
    command line yields exactly what the dataclass constructor produces by itself. -/
theorem c01_no_caller (fenv : FEnv) (cls : Str) (fs : CFields) (h : OwnStable fenv fs) :
    ∃ i, construct (.mk cls fs) = .ok i ∧ parseEmptyTop fenv (.mk cls fs) none = .ok i := by
  obtain ⟨r, ds, hc, hp, _⟩ := parseEmptyFields_own fenv fs h
  exact ⟨.inst cls r, by simp only [construct, hc], by simp only [parseEmptyTop, parseEmpty, hp]⟩

/-! ### kept visible: a Union-typed leaf with a convertible string default is NOT stable -/

def unionLeaf : FieldSpec :=
  { name := "u".toList, ty := { inner := .sc (.union [.float, .str]), optional := false },
    default := .value (.sc (.str "0".toList)) }
attribute [lit] unionLeaf

/-- the full statement "every well-typed default is stable" … -/
def AllDefaultsStable : Prop :=
  ∀ (fenv : FEnv) (f : FieldSpec) (v : Val), f.default = .value v → LeafStable fenv f v

theorem not_leafStable_of_own {fenv : FEnv} {f : FieldSpec} {v w : Val} (hd : f.default = .value v)
    (hw : leafEmpty fenv f none false = .ok w) (hne : w ≠ v) : ¬ LeafStable fenv f v :=
  fun h => hne (DOut.ok.inj ((hw.symm.trans (leafEmpty_own fenv false hd)).trans h))

/-- what the model computes for it where `float("0")` prints as `0.0`: the float -/
theorem unionLeaf_comes_back_float :
    leafEmpty [("0".toList, some "0.0".toList)] unionLeaf none false = .ok (.sc (.float "0.0".toList)) := by rfl

/-- … is false: `Union[float, str] = "0"` comes back as `0.0` (open finding
    C01-union-str-default-converted) -/
theorem c01_union_default_witness : ¬ AllDefaultsStable :=
  fun h => not_leafStable_of_own rfl unionLeaf_comes_back_float nofun (h _ unionLeaf _ rfl)

/-! ### completeness of `StableDefault` on the grammar: every WELL-TYPED default of a modelled annotation is stable,
    except the two named (decidable) exclusions -/

def wtB : BTy → Scalar → Bool
  | .int, .int _ => true
  | .float, .float _ => true
  | .float, .int _ => true
  | .str, .str _ => true
  | .bool, .bool _ => true
  | .path, .path _ => true
  | .any, .none => false
  | .any, _ => true
  | .enum c ms, .enum c' m => c == c' && ms.contains m
  | _, _ => false

def wtI : ITy → Scalar → Bool
  | .base b, s => wtB b s
  | .union alts, s => alts.any (fun b => wtB b s)

def wtItems : List ITy → List Scalar → Bool
  | [], [] => true
  | t :: ts, x :: xs => wtI t x && wtItems ts xs
  | _, _ => false

def wtN : NTy → Val → Bool
  | .sc t, .sc s => wtI t s
  | .literal vals, .sc s => vals.contains s
  | .list item, .list xs => xs.all (wtI item)
  | .tuple items, .tuple xs => wtItems items xs
  | .vtuple item, .tuple xs => xs.all (wtI item)
  | _, _ => false

def WellTyped (ty : FTy) (v : Val) : Bool :=
  (ty.optional && v == .sc .none) || wtN ty.inner v

/-- named exclusion (open finding C01-union-str-default-converted): a string held by a Union-typed leaf -/
def unionStr (ty : FTy) (v : Val) : Bool :=
  match ty.inner, v with
  | .sc (.union _), .sc (.str _) => true
  | _, _ => false

/-- named exclusion (open finding C01-literal-name-collision): a STRING value of a Literal whose name belongs, in the
    name → value table (last value of each name), to another value — `"0"` in `Literal["0", 0]` -/
def literalShadowed (ty : FTy) (v : Val) : Bool :=
  match ty.inner, v with
  | .literal vals, .sc (.str s) => vals.reverse.find? (fun w => literalName w = some s) != some (.str s)
  | _, _ => false

theorem wtB_ne_none (b : BTy) (s : Scalar) (h : wtB b s = true) : s ≠ .none := by
  rintro rfl
  cases b <;> exact Bool.noConfusion h

theorem stableDefault_of_wtB (b : BTy) (opt : Bool) (s : Scalar) (h : wtB b s = true) :
    StableDefault { inner := .sc (.base b), optional := opt } (.sc s) := by
  revert h
  fun_cases wtB b s <;> intro h
  · exact .plain .int opt _ (.inl rfl) (fun _ => Scalar.noConfusion) Scalar.noConfusion
  · exact .plain .float opt _ (.inr (.inl rfl)) (fun _ => Scalar.noConfusion) Scalar.noConfusion
  · exact .plain .float opt _ (.inr (.inl rfl)) (fun _ => Scalar.noConfusion) Scalar.noConfusion
  · exact .str opt _
  · exact .bool opt _
  · exact .path opt _
  · exact Bool.noConfusion h
  · rename_i hn
    by_cases hs : ∃ x, s = .str x
    · obtain ⟨x, rfl⟩ := hs
      exact .anyStr opt x
    · exact .plain .any opt s (.inr (.inr rfl)) (fun x hx => hs ⟨x, hx⟩) hn
  · rename_i c ms c' m
    obtain ⟨hc, hm⟩ := Bool.and_eq_true_iff.mp h
    obtain rfl : c = c' := eq_of_beq hc
    cases opt
    · exact .enum c ms m (List.contains_iff_mem.mp hm)
    · exact .enumOpt c ms m
  · exact Bool.noConfusion h

theorem stableDefault_of_wellTyped {ty : FTy} {v : Val} (hw : WellTyped ty v = true) (hm : modelledTy ty = true)
    (hu : unionStr ty v = false) (hl : literalShadowed ty v = false) : StableDefault ty v := by
  obtain ⟨inner, opt⟩ := ty
  rcases Bool.or_eq_true_iff.mp hw with h | hn
  · obtain ⟨rfl, hv⟩ := Bool.and_eq_true_iff.mp h
    obtain rfl := eq_of_beq hv
    exact .optNone inner hm
  · clear hw
    revert hn hm hu hl
    fun_cases wtN inner v <;> intro hm hu hl hw
    · rename_i t s
      cases t with
      | base b => exact stableDefault_of_wtB b opt s hw
      | union alts =>
        obtain ⟨b, _, hb⟩ := List.any_eq_true.mp hw
        refine .union alts opt s ?_ (wtB_ne_none b s hb)
        rintro x rfl
        exact Bool.noConfusion hu
    · rename_i vals s
      cases opt
      · refine .literal vals s (Option.isSome_iff_ne_none.mp hm) ?_
        rintro x rfl
        exact bne_eq_false_iff_eq.mp hl
      · exact Bool.noConfusion hm
    · exact .list _ opt _
    · exact .tuple _ opt _ (by cases opt <;> exact Option.isSome_iff_ne_none.mp hm)
    · exact .vtuple _ opt _
    · exact Bool.noConfusion hw

def leafOK (ty : FTy) (v : Val) : Bool :=
  WellTyped ty v && modelledTy ty && !unionStr ty v && !literalShadowed ty v

theorem stableDefault_of_leafOK {ty : FTy} {v : Val} (h : leafOK ty v = true) : StableDefault ty v := by
  simp only [leafOK, Bool.and_eq_true, Bool.not_eq_true'] at h
  exact stableDefault_of_wellTyped h.1.1.1 h.1.1.2 h.1.2 h.2


/-- the full statement "every well-typed default of a modelled annotation survives the trip" … -/
def AllTypedDefaultsStable : Prop :=
  ∀ (fenv : FEnv) (f : FieldSpec) (v : Val), f.default = .value v → WellTyped f.ty v = true → modelledTy f.ty = true →
    LeafStable fenv f v

/-- … is false for the Union finding (`Union[float, str] = "0"` is well-typed) … -/
theorem c01_union_default_typed_witness : ¬ AllTypedDefaultsStable :=
  fun h => not_leafStable_of_own rfl unionLeaf_comes_back_float nofun
    (h _ unionLeaf _ rfl (by decide_lit) (by decide_lit))

/-- `x: Literal["0", 0] = "0"` -/
def literalLeaf : FieldSpec :=
  { name := "x".toList, ty := { inner := .literal [.str "0".toList, .int 0], optional := false },
    default := .value (.sc (.str "0".toList)) }
attribute [lit] literalLeaf

/-- what the model computes for it: the int `0` (open finding C01-literal-name-collision) -/
theorem literalLeaf_comes_back_int (fenv : FEnv) :
    leafEmpty fenv literalLeaf none false = .ok (.sc (.int 0)) := by rfl

/-- … and for the Literal finding: `Literal["0", 0] = "0"` comes back as the int `0`, because the name → value table
    `{str(v): v}` (field_wrapper.py:891) keeps the LAST value of each name -/
theorem c01_literal_collision_witness : ¬ AllTypedDefaultsStable :=
  fun h => not_leafStable_of_own rfl (literalLeaf_comes_back_int []) nofun
    (h [] literalLeaf _ rfl (by decide_lit) (by decide_lit))

/-- the same leaf refutes the untyped statement as well -/
theorem c01_literal_collision_witness' : ¬ AllDefaultsStable :=
  fun h => not_leafStable_of_own rfl (literalLeaf_comes_back_int []) nofun (h [] literalLeaf _ rfl)

/-- **every well-typed default is stable, outside the two open findings** (`_partial` of `AllTypedDefaultsStable`
    under the named decidable exclusions `unionStr` and `literalShadowed`) -/
theorem c01_typed_defaults_partial (fenv : FEnv) (f : FieldSpec) (v : Val)
    (hw : WellTyped f.ty v = true) (hm : modelledTy f.ty = true)
    (hu : unionStr f.ty v = false) (hl : literalShadowed f.ty v = false) : LeafStable fenv f v :=
  leafStable_of_stableDefault fenv (stableDefault_of_wellTyped hw hm hu hl)

/-- the exclusions are exactly the findings' shapes: the shadowed `"0"` is excluded, the int `0` of the same Literal and
    `"0"` when it comes LAST are not; a non-string value of a Union is not -/
example : literalShadowed literalLeaf.ty (.sc (.str "0".toList)) = true := by decide_lit
example : leafOK literalLeaf.ty (.sc (.int 0)) = true := by decide_lit
example : leafOK { inner := .literal [.int 0, .str "0".toList], optional := false } (.sc (.str "0".toList)) = true := by decide_lit
example : leafOK { inner := .literal [.int 1, .str "zero".toList], optional := false } (.sc (.str "zero".toList)) = true := by decide_lit
example : leafOK unionLeaf.ty (.sc (.float "1.5".toList)) = true := by decide_lit
example : leafOK unionLeaf.ty (.sc (.str "0".toList)) = false := by decide_lit
example : leafOK { inner := .list (.base .int), optional := true } (.sc .none) = true := by decide
example : leafOK { inner := .tuple [.base .int, .base .str], optional := false } (.tuple [.int 1, .str "a".toList]) = true := by decide_lit

/-- the partial theorem applied: `w: Optional[List[float]] = None` and `t: Tuple[int, str] = (1, "a")`, whatever the
    float table, field name and aliases -/
example (fenv : FEnv) (d : DefaultV) : LeafStable fenv
    { name := "w".toList, ty := { inner := .list (.base .float), optional := true }, default := d } (.sc .none) :=
  c01_typed_defaults_partial fenv _ _ rfl rfl rfl rfl
example (fenv : FEnv) (d : DefaultV) : LeafStable fenv
    { name := "t".toList, ty := { inner := .tuple [.base .int, .base .str], optional := false }, default := d }
    (.tuple [.int 1, .str "a".toList]) :=
  c01_typed_defaults_partial fenv _ _ rfl rfl rfl rfl
/-- `StableDefault.optNone`: an Optional heterogeneous tuple holding None -/
example (fenv : FEnv) : LeafStable fenv
    { name := "t".toList, ty := { inner := .tuple [.base .int, .base .str], optional := true }, default := .missing } (.sc .none) :=
  leafStable_of_stableDefault fenv (.optNone _ (by decide))

mutual
def FitsTyped (fenv : FEnv) : CTree → IVal → Prop
  | .mk cls fs, .inst cls' ifs => cls = cls' ∧ FitsTypedF fenv fs ifs (.inst cls' ifs)
  | .mk _ _, .nul => False
def FitsTypedF (fenv : FEnv) : CFields → IFields → IVal → Prop
  | .nil, .nil, _ => True
  | .leaf f rest, .leaf n v irest, whole =>
    n = f.name ∧ whole.getLeaf f.name = some v ∧ StableDefault f.ty v ∧ FitsTypedF fenv rest irest whole
  | .child name optional _ t rest, .sub n v irest, whole =>
    n = name ∧ whole.getSub name = some v ∧
    (match v with
     | .nul => optional = true ∧ QuietNone fenv t
     | .inst c fs => FitsTyped fenv t (.inst c fs)) ∧
    FitsTypedF fenv rest irest whole
  | _, _, _ => False
end

theorem fitsStableF_of_typed (fenv : FEnv) : ∀ (fs : CFields) (ifs : IFields) (whole : IVal),
    FitsTypedF fenv fs ifs whole → FitsStableF fenv fs ifs whole := by
  intro fs
  induction fs using cfields_induction with
  | nil => intro ifs whole h; cases ifs <;> exact h
  | leaf f rest ih =>
    intro ifs whole h
    cases ifs with
    | leaf n v irest =>
      obtain ⟨hn, hget, hst, hrest⟩ := h
      exact ⟨hn, hget, leafStable_of_stableDefault fenv hst, ih irest whole hrest⟩
    | _ => exact h
  | child name optional dflt cls cfs rest ihc ih =>
    intro ifs whole h
    cases ifs with
    | sub n v irest =>
      obtain ⟨hn, hget, hv, hrest⟩ := h
      refine ⟨hn, hget, ?_, ih irest whole hrest⟩
      cases v with
      | nul => exact hv
      | inst c ifs' => exact ⟨hv.1, ihc ifs' _ hv.2⟩
    | _ => exact h

theorem fitsStable_of_typed {fenv : FEnv} {t : CTree} {i : IVal} (h : FitsTyped fenv t i) : FitsStable fenv t i := by
  cases t with | mk cls fs =>
  cases i with
  | nul => exact h
  | inst c ifs => exact ⟨h.1, fitsStableF_of_typed fenv fs ifs _ h.2⟩

/-- **C01 (caller-supplied default instance), hypothesis-free on the grammar.** -/
theorem c01_caller_default_typed (fenv : FEnv) (t : CTree) (i : IVal) (h : FitsTyped fenv t i) :
    parseEmptyTop fenv t (some i) = .ok i :=
  c01_caller_default fenv t i (fitsStable_of_typed h)

/-! ### an Optional member left at None stays None: proved, not assumed -/

/-! "quiet" subtree, by recursion on the class tree: every leaf comes back as its own declared default (None when it has
    none) when nothing is typed and no default instance exists; members are quiet recursively -/
mutual
def QuietT (fenv : FEnv) : CTree → Prop
  | .mk _ fs => QuietF fenv fs
def QuietF (fenv : FEnv) : CFields → Prop
  | .nil => True
  | .leaf f rest => leafEmpty fenv f none true = .ok (defaultVal f.default) ∧ QuietF fenv rest
  | .child _ _ _ t rest => QuietT fenv t ∧ QuietF fenv rest
end

/-- the members' half of the Optional rule follows from the whole subtree being at its default -/
theorem membersAtDefault_of_atDefaultF : ∀ (fs : CFields) (dv : DV) (r : IFields),
    atDefaultF fs dv r = true → membersAtDefault fs dv r = true := by
  intro fs
  induction fs using cfields_induction with
  | nil => intro dv r h; cases r <;> exact h
  | leaf f rest ih =>
    intro dv r h
    cases r with
    | leaf n v irest => exact ih dv irest (Bool.and_eq_true_iff.mp h).2
    | _ => exact h
  | child name optional dflt cls cfs rest _ ih =>
    intro dv r h
    cases r with
    | sub n v irest =>
      have h := Bool.and_eq_true_iff.mp h
      exact Bool.and_eq_true_iff.mpr ⟨h.1, ih dv irest h.2⟩
    | _ => exact h

theorem quietT_of_fields {fenv : FEnv} {cls : Str} {fs : CFields} {r : IFields} {ds : List (Str × Val)} (optional : Bool)
    (hat : atDefaultF fs .presentNone r = true)
    (hp : parseEmptyFields fenv fs none .presentNone true = .ok (r, ds)) :
    ∃ v, parseEmptyChild fenv (.mk cls fs) none .presentNone true optional = .ok v ∧
      atDefaultT (.mk cls fs) .presentNone v = true := by
  simp only [parseEmptyChild, hp]
  split
  · exact ⟨_, rfl, rfl⟩
  · exact ⟨_, rfl, hat⟩

theorem quietF_parse (fenv : FEnv) : ∀ (fs : CFields), QuietF fenv fs →
    ∃ r, IFields.leafNames r = CFields.leafNames fs ∧ atDefaultF fs .presentNone r = true ∧
      parseEmptyFields fenv fs none .presentNone true = .ok (r, IFields.leaves r) := by
  intro fs
  induction fs using cfields_induction with
  | nil => exact fun _ => ⟨.nil, rfl, rfl, rfl⟩
  | leaf f rest ih =>
    intro h
    obtain ⟨r, hl, hat, hp⟩ := ih h.2
    exact ⟨.leaf f.name (defaultVal f.default) r, congrArg (f.name :: ·) hl,
      Bool.and_eq_true_iff.mpr ⟨beq_self_eq_true _, hat⟩, by simp only [parseEmptyFields, h.1, hp, IFields.leaves]⟩
  | child name optional dflt cls cfs rest ihc ih =>
    intro h
    obtain ⟨r, hl, hat, hp⟩ := ih h.2
    obtain ⟨rc, _, hatc, hpc⟩ := ihc h.1
    obtain ⟨v, hv, hvat⟩ := quietT_of_fields (cls := cls) optional hatc hpc
    exact ⟨.sub name v r, hl, Bool.and_eq_true_iff.mpr ⟨hvat, hat⟩,
      by simp only [parseEmptyFields, childDV, Bool.true_or, hv, hp, IFields.leaves]⟩

/-- a quiet subtree below a None'd Optional member parses, and what is built is at its default in the sense of
    `_is_at_default` (so it cannot wake the enclosing Optional member, fixes 3f531df / f635f07) -/
theorem quietT_ok (fenv : FEnv) : ∀ (t : CTree) (optional : Bool), QuietT fenv t →
    ∃ v, parseEmptyChild fenv t none .presentNone true optional = .ok v ∧ atDefaultT t .presentNone v = true := by
  intro t optional h
  cases t with | mk cls fs =>
  obtain ⟨_, _, hat, hp⟩ := quietF_parse fenv fs h
  exact quietT_of_fields optional hat hp

/-- **an Optional member left at None stays None** — proved, not assumed: it holds for every subtree (any depth) whose
    leaves come back as their own defaults and whose own leaf names are distinct (as dataclass fields are); the
    nested members are built at their defaults, which the rule inspects too (`membersAtDefault`) -/
theorem quietNone_of_quietF (fenv : FEnv) (cls : Str) (fs : CFields) (h : QuietF fenv fs)
    (hnd : (CFields.leafNames fs).Nodup) : QuietNone fenv (.mk cls fs) := by
  obtain ⟨r, hl, hat, hp⟩ := quietF_parse fenv fs h
  -- the recorded wrapper defaults are the values that came back, under distinct names
  have hall : r.allLeavesEq (IFields.leaves r) = true :=
    allLeavesEq_iff.mpr (lookup_self_of_nodup (leafNames_eq r ▸ hl ▸ hnd))
  simp [QuietNone, parseEmptyChild, hp, hall, membersAtDefault_of_atDefaultF fs .presentNone r hat]

/-- `class K2: x: Literal["0", 0] = "0"`, `class K1: c: K2 = field(default_factory=K2)` — and `m: Optional[K1] = None` -/
def wakeTree : CTree :=
  .mk "K1".toList (.child "c".toList false .factoryCls (.mk "K2".toList (.leaf literalLeaf .nil)) .nil)
attribute [lit] wakeTree

/-- the hypothesis of `quietNone_of_quietF` cannot be dropped, and since fixes 3f531df / f635f07 it matters at EVERY
    depth: a leaf of a NESTED member that comes back changed (here the open finding C01-literal-name-collision) makes
    the enclosing `Optional[K1] = None` member come back built, although K1 has no leaf of its own -/
theorem c01_nested_changed_leaf_wakes_optional : ¬ QuietNone [] wakeTree := by
  have h : parseEmptyChild [] wakeTree none .presentNone true true =
      .ok (.inst "K1".toList (.sub "c".toList (.inst "K2".toList (.leaf "x".toList (.sc (.int 0)) .nil)) .nil)) := by
    rfl
  exact fun hq => nomatch h.symm.trans hq

/-! non-vacuity: a two-level tree with an Optional member, a caller instance that fits it -/
def demoTree : CTree :=
  .mk "K0".toList
    (.leaf { name := "a".toList, ty := { inner := .sc (.base .int), optional := false },
             default := .value (.sc (.int 1)) }
    (.child "o".toList true .noneVal
      (.mk "K1".toList (.leaf { name := "x".toList, ty := { inner := .sc (.base .int), optional := false },
                                default := .value (.sc (.int 5)) } .nil))
    .nil))

def demoInst : IVal :=
  .inst "K0".toList (.leaf "a".toList (.sc (.int 7))
    (.sub "o".toList (.inst "K1".toList (.leaf "x".toList (.sc (.int 9)) .nil)) .nil))
attribute [lit] demoTree demoInst

example : parseEmptyTop [] demoTree (some demoInst) = .ok demoInst := by rfl
example : parseEmptyTop [] demoTree none = construct demoTree := by rfl

/-- the demo instance below is typed: the theorem applies to it without any stability hypothesis
    beyond the quietness of Optional members holding None -/
example : FitsTyped [] demoTree demoInst :=
  have int (k : Int) : StableDefault ⟨.sc (.base .int), false⟩ (.sc (.int k)) :=
    .plain .int false _ (Or.inl rfl) (fun _ => Scalar.noConfusion) Scalar.noConfusion
  ⟨rfl, rfl, rfl, int 7, rfl, rfl, ⟨rfl, rfl, rfl, int 9, trivial⟩, trivial⟩

/-! ### syntactic hypotheses: typed leaves, quiet None members, typed own defaults -/

/-- a leaf's OWN default is a typed one (or it has none: then argparse's default is None) -/
def LeafDefaultTyped (f : FieldSpec) : Prop :=
  (∃ v, f.default = .value v ∧ leafOK f.ty v = true) ∨ (f.default = .missing ∧ modelledTy f.ty = true)

theorem leaf_quiet_of_typed (fenv : FEnv) (f : FieldSpec) (h : LeafDefaultTyped f) :
    leafEmpty fenv f none true = .ok (defaultVal f.default) := by
  rcases h with ⟨v, hd, hok⟩ | ⟨hd, hm⟩
  · rw [leafEmpty_own fenv true hd, hd]
    exact (leafEmpty_value_opt fenv f v true).trans
      (leafStable_of_stableDefault fenv (stableDefault_of_leafOK hok))
  · rw [leafEmpty_missing fenv f hd hm, hd]; rfl

mutual
def QuietTypedT : CTree → Prop
  | .mk _ fs => QuietTypedF fs
def QuietTypedF : CFields → Prop
  | .nil => True
  | .leaf f rest => LeafDefaultTyped f ∧ QuietTypedF rest
  | .child _ _ _ t rest => QuietTypedT t ∧ QuietTypedF rest
end

theorem quietF_of_typed (fenv : FEnv) : ∀ (fs : CFields), QuietTypedF fs → QuietF fenv fs := by
  intro fs
  induction fs using cfields_induction with
  | nil => exact fun _ => trivial
  | leaf f rest ih => exact fun h => ⟨leaf_quiet_of_typed fenv f h.1, ih h.2⟩
  | child name optional dflt cls cfs rest ihc ih => exact fun h => ⟨ihc h.1, ih h.2⟩

theorem quietT_of_typed (fenv : FEnv) : ∀ (t : CTree), QuietTypedT t → QuietT fenv t
  | .mk _ fs, h => quietF_of_typed fenv fs h

/-- syntactic quietness of a member's class: typed own defaults at every depth, distinct leaf names at its top level -/
def QuietSyn : CTree → Prop
  | .mk _ fs => QuietTypedF fs ∧ (CFields.leafNames fs).Nodup

theorem quietNone_of_syn (fenv : FEnv) (t : CTree) (h : QuietSyn t) : QuietNone fenv t := by
  match t, h with
  | .mk cls fs, h => exact quietNone_of_quietF fenv cls fs (quietF_of_typed fenv fs h.1) h.2

/-! ### instances, syntactically: every leaf value typed (outside the two exclusions), members holding None quiet -/
mutual
def FitsWT : CTree → IVal → Prop
  | .mk cls fs, .inst cls' ifs => cls = cls' ∧ FitsWTF fs ifs (.inst cls' ifs)
  | .mk _ _, .nul => False
def FitsWTF : CFields → IFields → IVal → Prop
  | .nil, .nil, _ => True
  | .leaf f rest, .leaf n v irest, whole =>
    n = f.name ∧ whole.getLeaf f.name = some v ∧ leafOK f.ty v = true ∧ FitsWTF rest irest whole
  | .child name optional _ t rest, .sub n v irest, whole =>
    n = name ∧ whole.getSub name = some v ∧
    (match v with
     | .nul => optional = true ∧ QuietSyn t
     | .inst c fs => FitsWT t (.inst c fs)) ∧
    FitsWTF rest irest whole
  | _, _, _ => False
end

theorem fitsTypedF_of_wt (fenv : FEnv) : ∀ (fs : CFields) (ifs : IFields) (whole : IVal),
    FitsWTF fs ifs whole → FitsTypedF fenv fs ifs whole := by
  intro fs
  induction fs using cfields_induction with
  | nil => intro ifs whole h; cases ifs <;> exact h
  | leaf f rest ih =>
    intro ifs whole h
    cases ifs with
    | leaf n v irest =>
      obtain ⟨hn, hget, hok, hrest⟩ := h
      exact ⟨hn, hget, stableDefault_of_leafOK hok, ih irest whole hrest⟩
    | _ => exact h
  | child name optional dflt cls cfs rest ihc ih =>
    intro ifs whole h
    cases ifs with
    | sub n v irest =>
      obtain ⟨hn, hget, hv, hrest⟩ := h
      refine ⟨hn, hget, ?_, ih irest whole hrest⟩
      cases v with
      | nul => exact ⟨hv.1, quietNone_of_syn fenv _ hv.2⟩
      | inst c ifs' => exact ⟨hv.1, ihc ifs' _ hv.2⟩
    | _ => exact h

theorem fitsTyped_of_wt (fenv : FEnv) {t : CTree} {i : IVal} (h : FitsWT t i) : FitsTyped fenv t i := by
  cases t with | mk cls fs =>
  cases i with
  | nul => exact h
  | inst c ifs => exact ⟨h.1, fitsTypedF_of_wt fenv fs ifs _ h.2⟩

/-- **C01 (caller-supplied default instance), fully syntactic hypothesis.** -/
theorem c01_caller_default_wellTyped (fenv : FEnv) (t : CTree) (i : IVal) (h : FitsWT t i) :
    parseEmptyTop fenv t (some i) = .ok i :=
  c01_caller_default_typed fenv t i (fitsTyped_of_wt fenv h)


/-! ### no caller default, syntactically -/

/-! "every field of the class has a typed default of its own, at every depth": leaves carry a typed default value
    (outside the two exclusions); members are `Optional … = None` with a syntactically quiet class,
    `default_factory=Cls` with `Cls` again of this kind, or `default_factory=lambda: inst` with a typed instance;
    field names are distinct (as dataclass fields are). No model evaluation inside. -/
mutual
def OwnTyped : CTree → Prop
  | .mk _ fs => OwnTypedF fs ∧ (CFields.leafNames fs).Nodup ∧ (CFields.subNames fs).Nodup
def OwnTypedF : CFields → Prop
  | .nil => True
  | .leaf f rest => (∃ v, f.default = .value v ∧ leafOK f.ty v = true) ∧ OwnTypedF rest
  | .child _ optional dflt t rest =>
    (match dflt with
     | .missing => False
     | .noneVal => optional = true ∧ QuietSyn t
     | .factoryCls => OwnTyped t
     | .factoryInst i => FitsWT t i) ∧ OwnTypedF rest
end

/-- typed own defaults are stable ones: a `default_factory=Cls` member by what the constructor builds for `Cls` -/
theorem ownStable_of_typed (fenv : FEnv) : ∀ (fs : CFields), OwnTypedF fs → OwnStable fenv fs := by
  intro fs
  induction fs using cfields_induction with
  | nil => exact fun _ => trivial
  | leaf f rest ih =>
    intro h
    obtain ⟨⟨v, hd, hok⟩, hrest⟩ := h
    exact ⟨⟨v, hd, (leafEmpty_own fenv false hd).trans
      (leafStable_of_stableDefault fenv (stableDefault_of_leafOK hok))⟩, ih hrest⟩
  | child name optional dflt cls cfs rest ihc ih =>
    intro h
    obtain ⟨hd, hrest⟩ := h
    refine ⟨?_, ih hrest⟩
    cases dflt with
    | missing => exact hd
    | noneVal => exact ⟨hd.1, quietNone_of_syn fenv _ hd.2⟩
    | factoryCls =>
      obtain ⟨r, _, hc, _, hloc, hln, hsn⟩ := parseEmptyFields_own fenv cfs (ihc hd.1)
      exact ⟨_, construct_fits_of_loc hc hloc (hln ▸ hd.2.1) (hsn ▸ hd.2.2)⟩
    | factoryInst i => exact fitsStable_of_typed (fitsTyped_of_wt fenv hd)

theorem constructFields_loc (fenv : FEnv) : ∀ (fs : CFields), OwnTypedF fs →
    ∃ r, constructFields fs = .ok r ∧ FitsLocF fenv fs r ∧
      IFields.leafNames r = CFields.leafNames fs ∧ IFields.subNames r = CFields.subNames fs := by
  intro fs h
  obtain ⟨r, _, hc, _, hrest⟩ := parseEmptyFields_own fenv fs (ownStable_of_typed fenv fs h)
  exact ⟨r, hc, hrest⟩

/-- **C01 (no caller default), fully syntactic hypothesis.** A class whose fields all carry typed defaults of their own
    (any depth; `default_factory=Cls` members, `default_factory=lambda: inst` members, `Optional … = None` members):
    the empty command line yields exactly what the dataclass constructor produces by itself. -/
theorem c01_no_caller_typed (fenv : FEnv) (cls : Str) (fs : CFields) (h : OwnTyped (.mk cls fs)) :
    ∃ i, construct (.mk cls fs) = .ok i ∧ parseEmptyTop fenv (.mk cls fs) none = .ok i := by
  simp only [OwnTyped] at h
  exact c01_no_caller fenv cls fs (ownStable_of_typed fenv fs h.1)

/-! ### non-vacuity of the syntactic hypotheses -/

def leafInt (n : String) (k : Int) : FieldSpec :=
  { name := n.toList, ty := { inner := .sc (.base .int), optional := false }, default := .value (.sc (.int k)) }

/-- `class K1: x: int = 5; t: Tuple[int, str]` (a REQUIRED tuple field) -/
def k1 : CTree :=
  .mk "K1".toList (.leaf (leafInt "x" 5)
    (.leaf { name := "t".toList, ty := { inner := .tuple [.base .int, .base .str], optional := false }, default := .missing } .nil))

def k2 : CTree := .mk "K2".toList (.leaf (leafInt "y" 2) .nil)

/-- `class K0: a: int = 1; m: Literal[0, "0"] = "0"; o: Optional[K1] = None; c: K2 = field(default_factory=K2);
    d: Optional[K2] = field(default_factory=lambda: K2(y=9))` -/
def ownTree : CTree :=
  .mk "K0".toList
    (.leaf (leafInt "a" 1)
    (.leaf { name := "m".toList, ty := { inner := .literal [.int 0, .str "0".toList], optional := false },
             default := .value (.sc (.str "0".toList)) }
    (.child "o".toList true .noneVal k1
    (.child "c".toList false .factoryCls k2
    (.child "d".toList true (.factoryInst (.inst "K2".toList (.leaf "y".toList (.sc (.int 9)) .nil))) k2 .nil)))))
attribute [lit] k1 k2 ownTree

/-- an Optional member whose class has a required field is quiet (the repaired tuple(None) case included) -/
theorem k1_quietSyn : QuietSyn k1 :=
  ⟨⟨Or.inl ⟨_, rfl, by decide⟩, Or.inr ⟨rfl, by decide⟩, trivial⟩, by decide +kernel⟩

example : QuietSyn k1 := k1_quietSyn

example (fenv : FEnv) : QuietNone fenv k1 := quietNone_of_syn fenv k1 k1_quietSyn

theorem ownTree_typed : OwnTyped ownTree := by
  refine ⟨⟨⟨_, rfl, by decide⟩, ⟨_, rfl, by decide_lit⟩, ⟨rfl, k1_quietSyn⟩, ?_, ?_, trivial⟩,
    by decide +kernel, by decide +kernel⟩
  · exact ⟨⟨⟨_, rfl, by decide⟩, trivial⟩, List.pairwise_singleton _ _, List.Pairwise.nil⟩
  · exact ⟨rfl, rfl, rfl, by decide, trivial⟩

/-- `c01_no_caller_typed` applies to a class with a `default_factory=Cls` member, a `default_factory=lambda: inst`
    member and an `Optional … = None` member -/
example (fenv : FEnv) : ∃ i, construct ownTree = .ok i ∧ parseEmptyTop fenv ownTree none = .ok i :=
  c01_no_caller_typed fenv _ _ ownTree_typed

/-- a caller instance with `o = None` (the Optional member LEFT at None) and `d` holding an instance -/
def ownInst : IVal :=
  .inst "K0".toList
    (.leaf "a".toList (.sc (.int 7))
    (.leaf "m".toList (.sc (.int 0))
    (.sub "o".toList .nul
    (.sub "c".toList (.inst "K2".toList (.leaf "y".toList (.sc (.int 3)) .nil))
    (.sub "d".toList .nul .nil)))))
attribute [lit] ownInst

theorem ownInst_fits : FitsWT ownTree ownInst := by
  refine ⟨rfl, rfl, rfl, by decide, rfl, rfl, by decide_lit, rfl, rfl, ⟨rfl, k1_quietSyn⟩, rfl, rfl, ?_, rfl, rfl,
    ⟨rfl, ?_⟩, trivial⟩
  · exact ⟨rfl, rfl, rfl, by decide, trivial⟩
  · exact ⟨⟨Or.inl ⟨_, rfl, by decide⟩, trivial⟩, List.pairwise_singleton _ _⟩

example (fenv : FEnv) : parseEmptyTop fenv ownTree (some ownInst) = .ok ownInst :=
  c01_caller_default_wellTyped fenv _ _ ownInst_fits

/-- `StableDefault.literal` / `literal_finds_itself`: `"b"` in `Literal["a", "b", 1]` -/
example (fenv : FEnv) : LeafStable fenv
    { name := "l".toList, ty := { inner := .literal [.str "a".toList, .str "b".toList, .int 1], optional := false },
      default := .missing } (.sc (.str "b".toList)) :=
  leafStable_of_stableDefault fenv <| .literal _ _ (by decide_lit)
    (literal_finds_itself _ _ (by decide_lit) (by decide_lit))
end SpVerif.C01
