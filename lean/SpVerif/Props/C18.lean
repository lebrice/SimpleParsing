/-
  C18 — replace() applies exactly the requested nested changes and nothing else.
  Theorems about `SpVerif.Model.Replace` (mirrors replace.py at bba27c4 and utils.unflatten / unflatten_split).
-/
import SpVerif.Model.Replace
import SpVerif.Lemmas.Core
import SpVerif.Lemmas.Lit
namespace SpVerif.C18
open SpVerif SpVerif.Replace

attribute [lit] keyword reservedKey

/-! ### small facts about the dict primitives and `str.split` -/

theorem dget_ddel_ne (d : Dict) (k k' : Str) (h : k' ≠ k) : dget (ddel d k') k = dget d k := by
  induction d with
  | nil => rfl
  | cons kv r ih =>
    obtain ⟨a, b⟩ := kv
    simp only [ddel]
    by_cases h1 : a = k'
    · subst h1; simp [dget, h]
    · simp only [h1, if_false, dget, ih]

theorem ddel_of_dget_none (d : Dict) (k : Str) (h : dget d k = Option.none) : ddel d k = d := by
  induction d with
  | nil => rfl
  | cons kv r ih =>
    obtain ⟨a, b⟩ := kv
    by_cases hak : a = k
    · simp [dget, hak] at h
    · simp only [dget, hak, if_false] at h
      simp only [ddel, hak, if_false, ih h]

theorem dget_single_self (k : Str) (x : Val) : dget [(k, x)] k = some x := if_pos rfl
theorem ddel_single_self (k : Str) (x : Val) : ddel [(k, x)] k = [] := if_pos rfl
theorem dget_single_ne {k n : Str} (x : Val) (h : k ≠ n) : dget [(k, x)] n = Option.none := if_neg h
theorem ddel_single_ne {k n : Str} (x : Val) (h : k ≠ n) : ddel [(k, x)] n = [(k, x)] := if_neg h

theorem splitOnChar_ne_nil (sep : Char) (s : Str) : splitOnChar sep s ≠ [] :=
  SpVerif.splitOnChar_ne_nil sep s

/-- `".".join(p).split(".") == p` when no component contains the separator -/
theorem splitOnChar_join (sep : Char) (p : List Str) (hne : p ≠ []) (h : ∀ s ∈ p, sep ∉ s) :
    splitOnChar sep (joinWith sep p) = p := by
  induction p with
  | nil => exact absurd rfl hne
  | cons s rest ih =>
    cases rest with
    | nil => exact splitOnChar_of_not_mem sep s (h s List.mem_cons_self)
    | cons q rest' =>
      simp only [joinWith]
      rw [splitOnChar_append_sep_of_not_mem sep s _ (h s List.mem_cons_self),
        ih (List.cons_ne_nil _ _) (fun x hx => h x (List.mem_cons_of_mem s hx))]

/-! ### the dotted form and the nested form of one edit -/

/-- a path as the dotted key `"a.b.c"` -/
def joinDot (p : List Str) : Str := joinWith '.' p

/-- the nested form `{"a": {"b": {"c": v}}}` of one edit -/
def nestOf : List Str → Val → Dict
  | [], _ => []
  | [k], v => [(k, v)]
  | k :: k2 :: rest, v => [(k, .dict (nestOf (k2 :: rest) v))]

/-- no component contains a dot (so it is a field name, not a dotted key) -/
def DotFree (p : List Str) : Prop := ∀ s ∈ p, '.' ∉ s

theorem DotFree.tail {k : Str} {rest : List Str} (hd : DotFree (k :: rest)) : DotFree rest :=
  fun s hs => hd s (List.mem_cons_of_mem k hs)

theorem setPath_nil_eq (p : List Str) (v : Val) (hne : p ≠ []) : setPath [] p v = .ok (nestOf p v) := by
  induction p with
  | nil => exact absurd rfl hne
  | cons k rest ih =>
    cases rest with
    | nil => rfl
    | cons k2 rest' =>
      simp only [setPath, dget, ih (List.cons_ne_nil _ _), nestOf, dset]

theorem unflattenSplit_single (k : Str) (x : Val) (hk : '.' ∉ k) : unflattenSplit [(k, x)] = .ok [(k, x)] := by
  simp only [unflattenSplit, List.map, splitDot, splitOnChar_of_not_mem '.' k hk, unflattenFrom, setPath, dset]

/-- **dotted → nested**: `unflatten_split({"a.b.c": v}) == {"a": {"b": {"c": v}}}` for any depth -/
theorem unflatten_dotted (p : List Str) (v : Val) (hne : p ≠ []) (hd : DotFree p) :
    unflattenSplit [(joinDot p, v)] = .ok (nestOf p v) := by
  simp only [unflattenSplit, List.map, splitDot, joinDot, splitOnChar_join '.' p hne hd, unflattenFrom,
    setPath_nil_eq p v hne]

theorem unflatten_nested (p : List Str) (v : Val) (hne : p ≠ []) (hd : DotFree p) :
    unflattenSplit (nestOf p v) = .ok (nestOf p v) := by
  cases p with
  | nil => exact absurd rfl hne
  | cons k rest => cases rest <;> exact unflattenSplit_single k _ (hd k List.mem_cons_self)

theorem replaceKw_congr (obj : Val) {ch1 ch2 : Dict} (h : unflattenSplit ch1 = unflattenSplit ch2) :
    replaceKw obj ch1 = replaceKw obj ch2 := by
  unfold replaceKw
  split <;> rw [h]

/-- **dotted form = nested form** (replace.py docstring: `{"a.b": 1}` instead of `{"a": {"b": 1}}`), any depth,
    any object, whatever the outcome (result or error). -/
theorem c18_forms_dotted_nested (obj : Val) (p : List Str) (v : Val) (hne : p ≠ []) (hd : DotFree p) :
    replaceKw obj [(joinDot p, v)] = replaceKw obj (nestOf p v) :=
  replaceKw_congr obj (by rw [unflatten_dotted p v hne hd, unflatten_nested p v hne hd])

example : DotFree ["m".toList, "ol".toList, "v".toList] := by
  unfold DotFree; decide_lit

/-- **keyword form = positional-dict form** -/
theorem c18_forms_kw_dict (obj : Val) (cd : Dict) (hr : hasReserved cd = false) :
    replaceTop obj (some cd) [] = replaceTop obj Option.none cd := by
  cases cd with
  | nil => rfl
  | cons c cs => unfold replaceTop; rw [hr]; rfl

example : hasReserved [("a".toList, Val.int 1)] = false := by decide_lit

/-! ### the fields of an instance and the field loops -/

/-- `fields(obj)` lookup by name (first match, as `getattr` would see it) -/
def getFld : List Fld → Str → Option Fld
  | [], _ => Option.none
  | .mk n i v d :: rest, k => if n = k then some (.mk n i v d) else getFld rest k

section Level
variable {cls k : Str} {f : Fld} {fs fs' rest : List Fld} {ch : Dict} {r x v' : Val}

theorem mk_eta (f : Fld) : Fld.mk f.name f.init f.val f.dflt = f := by cases f; rfl

theorem getFld_cons (f : Fld) (rest : List Fld) (k : Str) :
    getFld (f :: rest) k = if f.name = k then some f else getFld rest k := by
  obtain ⟨n, i, v, d⟩ := f; rfl

theorem getFld_some (hf : getFld fs k = some f) : f ∈ fs ∧ f.name = k := by
  induction fs with
  | nil => cases hf
  | cons f0 rest ih =>
    rw [getFld_cons] at hf
    split at hf
    · rename_i hk
      cases hf
      exact ⟨List.mem_cons_self, hk⟩
    · exact ⟨List.mem_cons_of_mem _ (ih hf).1, (ih hf).2⟩

theorem getField_eq (fs : List Fld) (k : Str) : getField fs k = (getFld fs k).map Fld.val := by
  induction fs with
  | nil => rfl
  | cons f rest ih =>
    obtain ⟨n, i, v, d⟩ := f
    simp only [getField, getFld]
    split
    · rfl
    · exact ih

theorem setField_cons (f : Fld) (rest : List Fld) (k : Str) (x : Val) :
    setField (f :: rest) k x =
      if f.name = k then (if f.init then some (.mk f.name f.init x f.dflt :: rest) else Option.none)
      else (setField rest k x).map (f :: ·) := by
  obtain ⟨n, i, v, d⟩ := f; rfl

theorem rebuild_cons (f : Fld) (rest : List Fld) :
    rebuild (f :: rest) = (if f.init then f else .mk f.name f.init f.dflt f.dflt) :: rebuild rest := by
  obtain ⟨n, i, v, d⟩ := f; rfl

theorem getFld_rebuild_init
    (h : getFld fs k = some f) (hi : f.init = true) : getFld (rebuild fs) k = some f := by
  induction fs with
  | nil => cases h
  | cons f0 rest ih =>
    rw [getFld_cons] at h
    rw [rebuild_cons, getFld_cons]
    by_cases hk : f0.name = k
    · rw [if_pos hk] at h
      cases h
      rw [hi, if_pos rfl, if_pos hk]
    · rw [if_neg hk] at h
      have hn : (if f0.init then f0 else Fld.mk f0.name f0.init f0.dflt f0.dflt).name = f0.name := by
        cases f0.init <;> rfl
      rw [hn, if_neg hk]
      exact ih h

/-! `selLeft`: the keys that name no field (`replace` hands them to `dataclasses.replace`, which rejects them,
    replace.py:110; `replace_subgroups` raises at :193 since repair bba27c4) -/

theorem selLeft_cons (f : Fld) (rest : List Fld) (sel : Dict) :
    selLeft (f :: rest) sel = selLeft rest (ddel sel f.name) := by
  obtain ⟨n, i, v, d⟩ := f; rfl

theorem selLeft_nil (fs : List Fld) : selLeft fs [] = [] := by
  induction fs with
  | nil => rfl
  | cons f rest ih => rw [selLeft_cons]; exact ih

theorem selLeft_single (fs : List Fld) (k : Str) (s : Val) :
    selLeft fs [(k, s)] = if (getFld fs k).isSome then [] else [(k, s)] := by
  induction fs with
  | nil => rfl
  | cons f rest ih =>
    rw [selLeft_cons, getFld_cons]
    by_cases hk : f.name = k
    · subst hk
      rw [ddel_single_self, selLeft_nil, if_pos rfl]
      rfl
    · rw [ddel_single_ne s (Ne.symm hk), if_neg hk, ih]

theorem selLeft_single_isEmpty (fs : List Fld) (k : Str) (s : Val) :
    (selLeft fs [(k, s)]).isEmpty = (getFld fs k).isSome := by
  rw [selLeft_single]
  cases (getFld fs k).isSome <;> rfl

theorem selLeft_keeps_unknown (fs : List Fld) : ∀ (sel : Dict) (k : Str), getFld fs k = Option.none →
    dget (selLeft fs sel) k = dget sel k := by
  induction fs with
  | nil => intro sel k _; rfl
  | cons f rest ih =>
    intro sel k hk
    rw [getFld_cons] at hk
    split at hk
    · cases hk
    · rename_i hnk
      rw [selLeft_cons, ih _ k hk, dget_ddel_ne sel k f.name hnk]

/-- the shape shared by the field loops of `replace` (replace.py:91-106) and `replace_subgroups` (:130-191): every
    field takes a step that sees the entry under its name, and that entry is popped.  What the loops leave over is
    `selLeft`. -/
def fieldLoop (step : Fld → Option Val → Out Val) : List Fld → Dict → Out (List Fld)
  | [], _ => .ok []
  | f :: rest, d => (step f (dget d f.name)).bind fun v' =>
      (fieldLoop step rest (ddel d f.name)).map (.mk f.name f.init v' f.dflt :: ·)

section Loop
variable {step : Fld → Option Val → Out Val}

theorem fieldLoop_cons_inv (h : fieldLoop step (f :: rest) ch = .ok fs') :
    ∃ v' r, step f (dget ch f.name) = .ok v' ∧ fieldLoop step rest (ddel ch f.name) = .ok r ∧
      fs' = .mk f.name f.init v' f.dflt :: r := by
  unfold fieldLoop at h
  cases hs : step f (dget ch f.name) with
  | error e => rw [hs] at h; cases h
  | ok v' =>
    cases hr : fieldLoop step rest (ddel ch f.name) with
    | error e => rw [hs, hr] at h; cases h
    | ok r => rw [hs, hr] at h; exact ⟨v', r, rfl, rfl, (Except.ok.inj h).symm⟩

theorem fieldLoop_spec (h : fieldLoop step fs ch = .ok fs') (hf : getFld fs k = some f) :
    ∃ v', getFld fs' k = some (.mk f.name f.init v' f.dflt) ∧ step f (dget ch k) = .ok v' := by
  induction fs generalizing ch fs' with
  | nil => cases hf
  | cons f0 rest ih =>
    obtain ⟨v', r, hstep, hr, rfl⟩ := fieldLoop_cons_inv h
    rw [getFld_cons] at hf
    simp only [getFld]
    by_cases hk : f0.name = k
    · rw [if_pos hk] at hf ⊢
      cases hf
      exact ⟨v', rfl, hk ▸ hstep⟩
    · rw [if_neg hk] at hf ⊢
      rw [← dget_ddel_ne ch k f0.name hk]
      exact ih hr hf

theorem fieldLoop_frame (hn : ∀ g v, step g Option.none = .ok v → v = g.val)
    (h : fieldLoop step fs ch = .ok fs') (hk : dget ch k = Option.none) : getFld fs' k = getFld fs k := by
  induction fs generalizing ch fs' with
  | nil => cases h; rfl
  | cons f rest ih =>
    obtain ⟨v', r, hs, hr, rfl⟩ := fieldLoop_cons_inv h
    simp only [getFld]
    rw [getFld_cons]
    by_cases hnk : f.name = k
    · rw [hnk, hk] at hs
      rw [if_pos hnk, if_pos hnk, hn f v' hs, mk_eta]
    · rw [if_neg hnk, if_neg hnk]
      exact ih hr (by rw [dget_ddel_ne ch k f.name hnk]; exact hk)

theorem fieldLoop_nil (hn : ∀ g ∈ fs, step g Option.none = .ok g.val) : fieldLoop step fs [] = .ok fs := by
  induction fs with
  | nil => rfl
  | cons f rest ih =>
    obtain ⟨hf, hrest⟩ := List.forall_mem_cons.mp hn
    unfold fieldLoop
    rw [show dget [] f.name = Option.none from rfl, hf, show ddel [] f.name = [] from rfl, ih hrest,
      ← mk_eta f]
    rfl

theorem fieldLoop_single (hn : ∀ g ∈ fs, step g Option.none = .ok g.val) (hf : getFld fs k = some f)
    (hi : f.init = true) (hs : step f (some x) = .ok v') :
    ∃ fs', setField fs k v' = some fs' ∧ fieldLoop step fs [(k, x)] = .ok fs' := by
  induction fs with
  | nil => cases hf
  | cons f0 rest ih =>
    obtain ⟨hn0, hnr⟩ := List.forall_mem_cons.mp hn
    rw [getFld_cons] at hf
    unfold fieldLoop
    rw [setField_cons]
    by_cases hk : f0.name = k
    · rw [if_pos hk] at hf ⊢
      cases hf
      rw [hi, hk, dget_single_self, hs, ddel_single_self, fieldLoop_nil hnr]
      exact ⟨_, rfl, rfl⟩
    · rw [if_neg hk] at hf ⊢
      obtain ⟨r, hr, hl⟩ := ih hnr hf
      rw [dget_single_ne x (Ne.symm hk), hn0, ddel_single_ne x (Ne.symm hk), hl, hr, ← mk_eta f0]
      exact ⟨_, rfl, rfl⟩

theorem fieldLoop_congr_single (a : Str) {s1 s2 : Val} (h : ∀ g, step g (some s1) = step g (some s2))
    (fs : List Fld) : fieldLoop step fs [(a, s1)] = fieldLoop step fs [(a, s2)] := by
  induction fs with
  | nil => rfl
  | cons f rest ih =>
    unfold fieldLoop
    by_cases han : a = f.name
    · subst han
      rw [dget_single_self, dget_single_self, ddel_single_self, ddel_single_self, h]
    · rw [dget_single_ne s1 han, dget_single_ne s2 han, ddel_single_ne s1 han, ddel_single_ne s2 han, ih]

end Loop

/-- replace.py:99-105, the value stored for the change entry `x` on a field that holds `cur`: a dict on a
    dataclass-valued field is the nested form and is applied recursively, anything else is stored as it is -/
def stepVal : Val → Val → Out Val
  | .inst c sub, .dict fc => replaceKw (.inst c sub) fc
  | _, x => .ok x

/-- replace.py:92-105, the new value of field `f` given the entry `c` of the unflattened change set under its
    name: untouched when there is none; otherwise the field must be an init field -/
def fieldStep (f : Fld) : Option Val → Out Val
  | Option.none => .ok f.val
  | some x => if f.init then stepVal f.val x else .error (.raise .valueError)

theorem fieldStep_some_ok :
    fieldStep f (some x) = .ok v' ↔ f.init = true ∧ stepVal f.val x = .ok v' := by
  unfold fieldStep
  cases f.init <;> simp

theorem replaceFields_eq (fs : List Fld) (ch : Dict) :
    replaceFields fs ch = (fieldLoop fieldStep fs ch).map fun fs' => (fs', selLeft fs ch) := by
  induction fs generalizing ch with
  | nil => rfl
  | cons f rest ih =>
    obtain ⟨n, i, v, d⟩ := f
    unfold replaceFields fieldLoop
    show _ = Except.map (fun fs' => (fs', selLeft rest (ddel ch n))) ((fieldStep (.mk n i v d) (dget ch n)).bind fun v' =>
      (fieldLoop fieldStep rest (ddel ch n)).map (.mk n i v' d :: ·))
    cases hg : dget ch n with
    | none =>
      -- the `continue` arm keeps `ch`, which is `ddel ch n`: popping an absent key has no effect
      rw [ih, ddel_of_dget_none ch n hg]
      cases fieldLoop fieldStep rest ch <;> rfl
    | some x =>
      cases i with
      | false => rfl
      | true =>
        dsimp only
        rw [show fieldStep (.mk n true v d) (some x) = stepVal v x from rfl,
          if_neg (show ¬ (!true) = true from Bool.false_ne_true), ih]
        split
        · rename_i c sub fc
          rw [show stepVal (.inst c sub) (.dict fc) = replaceKw (.inst c sub) fc from rfl]
          cases replaceKw (.inst c sub) fc with
          | error e => rfl
          | ok vn => cases fieldLoop fieldStep rest (ddel ch n) <;> rfl
        · rename_i hno
          have hs : stepVal v x = .ok x := by
            unfold stepVal
            split
            · exact (hno _ _ _ rfl rfl).elim
            · rfl
          rw [hs]
          cases fieldLoop fieldStep rest (ddel ch n) <;> rfl

theorem replaceKw_inst_ok :
    replaceKw (.inst cls fs) ch = .ok r ↔
      ∃ n fs', unflattenSplit ch = .ok n ∧ fieldLoop fieldStep fs n = .ok fs' ∧ selLeft fs n = [] ∧
        .inst cls (rebuild fs') = r := by
  unfold replaceKw
  constructor
  · intro h
    cases hu : unflattenSplit ch with
    | error e => rw [hu] at h; cases h
    | ok n =>
      rw [hu] at h
      dsimp only at h
      rw [replaceFields_eq] at h
      cases hr : fieldLoop fieldStep fs n with
      | error e => rw [hr] at h; cases h
      | ok fs' =>
        rw [hr] at h
        dsimp only [Except.map] at h
        cases hl : selLeft fs n with
        | nil => rw [hl] at h; cases h; exact ⟨n, fs', rfl, hr, hl, rfl⟩
        | cons a b => rw [hl] at h; cases h
  · rintro ⟨n, fs', hu, hr, hl, rfl⟩
    rw [hu]
    dsimp only
    rw [replaceFields_eq, hr]
    dsimp only [Except.map]
    rw [hl]

theorem getPath_cons_inst (cls : Str) (fs : List Fld) (k : Str) (rest : List Str) :
    getPath (.inst cls fs) (k :: rest) = (getFld fs k).bind (fun f => getPath f.val rest) := by
  simp only [getPath, getField_eq]
  cases getFld fs k <;> rfl

theorem getPath_cons_inv {obj : Val} {k : Str} {rest : List Str} {old : Val}
    (h : getPath obj (k :: rest) = some old) :
    ∃ cls fs f, obj = .inst cls fs ∧ getFld fs k = some f ∧ getPath f.val rest = some old := by
  cases obj with
  | inst c fs =>
    rw [getPath_cons_inst] at h
    cases hf : getFld fs k with
    | none => rw [hf] at h; cases h
    | some f => rw [hf] at h; exact ⟨c, fs, f, rfl, hf, h⟩
  | _ => cases h

theorem replaceKw_level
    (h : replaceKw (.inst cls fs) ch = .ok r) (hf : getFld fs k = some f) :
    ∃ n v', unflattenSplit ch = .ok n ∧ fieldStep f (dget n k) = .ok v' ∧
      (f.init = true → ∀ rest, getPath r (k :: rest) = getPath v' rest) := by
  obtain ⟨n, fs', hu, hr, -, rfl⟩ := replaceKw_inst_ok.mp h
  obtain ⟨v', hget, hstep⟩ := fieldLoop_spec hr hf
  refine ⟨n, v', hu, hstep, fun hi rest => ?_⟩
  rw [getPath_cons_inst, getFld_rebuild_init hget hi]
  rfl

end Level

/-! ### the meaning of a change set, and the addressed-leaf / frame theorems -/

/-- the value a change set assigns to the path `p`: keys are split on dots and merged at every level
    (that is `unflatten_split`, applied again at each level by the recursion at replace.py:101). -/
def leafAt : Dict → List Str → Option Val
  | _, [] => Option.none
  | ch, [k] => match unflattenSplit ch with
    | .ok n => dget n k
    | .error _ => Option.none
  | ch, k :: k2 :: rest => match unflattenSplit ch with
    | .ok n => match dget n k with
      | some (.dict fc) => leafAt fc (k2 :: rest)
      | _ => Option.none
    | .error _ => Option.none

theorem leafAt_of_unflat (p : List Str) : ∀ (v : Val) (ch : Dict), p ≠ [] → DotFree p →
    unflattenSplit ch = .ok (nestOf p v) → leafAt ch p = some v := by
  induction p with
  | nil => intro v ch hne; exact absurd rfl hne
  | cons k rest ih =>
    intro v ch _ hd h0
    cases rest with
    | nil => simp only [leafAt, h0, nestOf, dget, if_true]
    | cons k2 r =>
      simp only [leafAt, h0, nestOf, dget, if_true]
      exact ih v _ (List.cons_ne_nil _ _) hd.tail (unflatten_nested (k2 :: r) v (List.cons_ne_nil _ _) hd.tail)

/-- a dict placed on a dataclass-valued field is the *nested form* (applied recursively), not a leaf value -/
def storedAsIs (old v : Val) : Bool :=
  match old, v with
  | .inst _ _, .dict _ => false
  | _, _ => true

theorem stepVal_of_storedAsIs {cur x : Val} (h : storedAsIs cur x = true) : stepVal cur x = .ok x := by
  unfold stepVal
  split
  · cases h
  · rfl

/-- below an existing path the current value is a dataclass instance, so a dict entry is applied recursively -/
theorem stepVal_below {cur old v' : Val} {fc : Dict} {k : Str} {rest : List Str}
    (hp : getPath cur (k :: rest) = some old) : stepVal cur (.dict fc) = .ok v' ↔ replaceKw cur fc = .ok v' := by
  obtain ⟨c, sub, f, rfl, -, -⟩ := getPath_cons_inv hp
  rfl

/-- **Addressed leaves — full statement**: whenever `replace` succeeds, every path the change set
    assigns a (non-dict) value to holds that value in the result. -/
def AddressedFull : Prop :=
  ∀ (obj : Val) (ch : Dict) (r : Val) (p : List Str) (v : Val),
    replaceKw obj ch = .ok r → leafAt ch p = some v → (∀ d, v ≠ .dict d) → getPath r p = some v

/-- **Addressed leaves (partial: D19 excluded).** If `replace` succeeds, every path `p` the change set
    assigns `v` to — in dotted, nested or mixed form, at any depth — holds `v` in the result, provided
    the path exists in the original object (`getPath obj p = some old`: it runs through dataclass
    instances only; this is the named exclusion of D19). -/
theorem c18_addressed_partial (p : List Str) : ∀ (obj : Val) (ch : Dict) (r v old : Val),
    replaceKw obj ch = .ok r → leafAt ch p = some v → getPath obj p = some old → storedAsIs old v = true →
    getPath r p = some v := by
  induction p with
  | nil => intro obj ch r v old _ hl; cases hl
  | cons k rest ih =>
    intro obj ch r v old h hl hp hs
    obtain ⟨cls, fs, f, rfl, hf, hp⟩ := getPath_cons_inv hp
    obtain ⟨n, v', hu, hstep, hr⟩ := replaceKw_level h hf
    cases rest with
    | nil =>
      simp only [leafAt, hu] at hl
      rw [hl, fieldStep_some_ok] at hstep
      cases hp
      rw [stepVal_of_storedAsIs hs] at hstep
      cases hstep.2
      rw [hr hstep.1]
      rfl
    | cons k2 r2 =>
      simp only [leafAt, hu] at hl
      split at hl
      · rename_i fc hd
        rw [hd, fieldStep_some_ok, stepVal_below hp] at hstep
        rw [hr hstep.1]
        exact ih f.val fc v' v old hstep.2 hl hp hs
      · cases hl

example : storedAsIs (.int 1) (.dict []) = true := by decide +kernel

/-- the documented dotted form: `replace(obj, {"a.b.c": v})` sets `obj.a.b.c` to `v` (any depth) -/
theorem c18_addressed_dotted {obj r v old : Val} {p : List Str} (hne : p ≠ []) (hd : DotFree p)
    (h : replaceKw obj [(joinDot p, v)] = .ok r) (hp : getPath obj p = some old)
    (hs : storedAsIs old v = true) : getPath r p = some v :=
  c18_addressed_partial p obj _ r v old h (leafAt_of_unflat p v _ hne hd (unflatten_dotted p v hne hd)) hp hs

/-- **Nested fields may be named like `replace`'s own parameters** (full; nested change dicts are passed on
    positionally since repair 4cae786, replace.py:103): `replace(p, {"m.obj": v})` sets `p.m.obj`. -/
theorem c18_reserved_names_addressed (obj r v old : Val) (m : Str) (hm : '.' ∉ m)
    (h : replaceKw obj [(joinDot [m, "obj".toList], v)] = .ok r)
    (hp : getPath obj [m, "obj".toList] = some old) (hs : storedAsIs old v = true) :
    getPath r [m, "obj".toList] = some v :=
  c18_addressed_dotted (List.cons_ne_nil _ _)
    (List.forall_mem_cons.mpr ⟨hm, List.forall_mem_cons.mpr ⟨by decide_lit, nofun⟩⟩) h hp hs

example : replaceKw (.inst ['P'] [.mk ['m'] true (.inst ['R'] [.mk ['o', 'b', 'j'] true (.int 1) .none,
                                                                  .mk ['v'] true (.int 2) .none]) .none])
    [(['m', '.', 'o', 'b', 'j'], .int 5), (['m', '.', 'v'], .int 6)] =
    .ok (.inst ['P'] [.mk ['m'] true (.inst ['R'] [.mk ['o', 'b', 'j'] true (.int 5) .none,
                                                      .mk ['v'] true (.int 6) .none]) .none]) := rfl
example : reservedKey ['o', 'b', 'j'] = true := by decide_lit

/-- **D19 witness**: `m.ol is None`, change `{"ol.v": 3}`: `replace` returns normally and `ol` holds the raw
    dict `{'v': 3}`; the addressed leaf `ol.v` does not exist in the result. -/
theorem c18_addressed_witness : ¬ AddressedFull := by
  intro h
  have := h (.inst ['M'] [.mk ['o', 'l'] true .none .none, .mk ['z'] true (.int 1) .none])
    [(['o', 'l', '.', 'v'], .int 3)]
    (.inst ['M'] [.mk ['o', 'l'] true (.dict [(['v'], .int 3)]) .none, .mk ['z'] true (.int 1) .none])
    [['o', 'l'], ['v']] (.int 3) rfl rfl (by intro d hd; cases hd)
  cases this

/-- paths no change reaches: at some level the (unflattened) change set has no entry for the next component -/
def untouched : Dict → List Str → Bool
  | _, [] => false
  | ch, k :: rest => match unflattenSplit ch with
    | .ok n => match dget n k with
      | Option.none => true
      | some (.dict fc) => untouched fc rest
      | some _ => false
    | .error _ => false

/-- every field on the path is an `init` field (`dataclasses.replace` re-creates `init=False` fields) -/
def initPath : List Str → Val → Bool
  | [], _ => true
  | k :: rest, .inst _ fs => match getFld fs k with
    | some f => f.init && initPath rest f.val
    | Option.none => false
  | _ :: _, _ => false

/-- **Frame.** Every leaf (indeed every subtree) that no change addresses is, in the result, exactly
    what it was in `obj` — at any depth, for change sets in any mixture of forms. -/
theorem c18_frame (p : List Str) : ∀ (obj : Val) (ch : Dict) (r old : Val),
    replaceKw obj ch = .ok r → untouched ch p = true → getPath obj p = some old → initPath p obj = true →
    getPath r p = some old := by
  induction p with
  | nil => intro obj ch r old _ hu; cases hu
  | cons k rest ih =>
    intro obj ch r old h hun hp hin
    obtain ⟨cls, fs, f, rfl, hf, hp⟩ := getPath_cons_inv hp
    obtain ⟨n, v', hu, hstep, hr⟩ := replaceKw_level h hf
    unfold initPath at hin
    unfold untouched at hun
    simp only [hf, Bool.and_eq_true] at hin
    simp only [hu] at hun
    rw [hr hin.1]
    split at hun
    · rename_i hd
      rw [hd] at hstep
      cases hstep
      exact hp
    · rename_i fc hd
      cases rest with
      | nil => cases hun
      | cons k2 r2 =>
        rw [hd, fieldStep_some_ok, stepVal_below hp] at hstep
        exact ih f.val fc v' old hstep.2 hun hp hin.2
    · cases hun

example : untouched [(['a', '.', 'b'], .int 1)] [['a'], ['c']] = true := by decide +kernel
example : untouched [(['a', '.', 'b'], .int 1)] [['z']] = true := by decide +kernel
example : initPath [['a']] (.inst ['C'] [.mk ['a'] true (.int 0) .none]) = true := by decide +kernel

/-! ### empty change set, result class -/

/-- `init=False` fields hold their class default (true of every instance built by its constructor) -/
def AtDefault (fs : List Fld) : Prop := ∀ f ∈ fs, f.init = false → f.val = f.dflt

theorem rebuild_atDefault (fs : List Fld) (h : AtDefault fs) : rebuild fs = fs := by
  induction fs with
  | nil => rfl
  | cons f rest ih =>
    obtain ⟨hf, hrest⟩ := List.forall_mem_cons.mp h
    rw [rebuild_cons, ih hrest]
    obtain ⟨n, i, v, d⟩ := f
    cases i with
    | true => rfl
    | false => cases (hf rfl : v = d); rfl

/-- **Empty change set = identity** (positional `{}`, `None`, or no keywords). -/
theorem c18_empty (cls : Str) (fs : List Fld) (cd : Option Dict) (hcd : cd = Option.none ∨ cd = some [])
    (h : AtDefault fs) : replaceTop (.inst cls fs) cd [] = .ok (.inst cls fs) := by
  have : replaceKw (.inst cls fs) [] = .ok (.inst cls fs) :=
    replaceKw_inst_ok.mpr ⟨[], fs, rfl, fieldLoop_nil (fun _ _ => rfl), selLeft_nil fs, by rw [rebuild_atDefault fs h]⟩
  rcases hcd with rfl | rfl <;> exact this

example : AtDefault [.mk ['a'] true (.int 0) .none, .mk ['n'] false (.int 7) (.int 7)] := by
  intro f hf hi
  simp at hf
  rcases hf with rfl | rfl
  · simp [Fld.init] at hi
  · rfl

/-- field names, `init` flags and defaults, in declaration order -/
def skel (fs : List Fld) : List (Str × Bool) := fs.map (fun f => (f.name, f.init))

theorem fieldLoop_skel {step : Fld → Option Val → Out Val} {fs fs' : List Fld} {d : Dict}
    (h : fieldLoop step fs d = .ok fs') : skel fs' = skel fs := by
  induction fs generalizing d fs' with
  | nil => cases h; rfl
  | cons f rest ih =>
    obtain ⟨v', r, -, hr, rfl⟩ := fieldLoop_cons_inv h
    simp only [skel, List.map_cons] at ih ⊢
    rw [ih hr]
    rfl

theorem rebuild_skel (fs : List Fld) : skel (rebuild fs) = skel fs := by
  induction fs with
  | nil => rfl
  | cons f rest ih =>
    rw [rebuild_cons]
    simp only [skel, List.map_cons] at ih ⊢
    rw [ih]
    obtain ⟨n, i, v, d⟩ := f
    cases i <;> rfl

/-- **Same type**: the result is an instance of the same class with the same fields in the same order. -/
theorem c18_same_class (cls : Str) (fs : List Fld) (ch : Dict) (r : Val)
    (h : replaceKw (.inst cls fs) ch = .ok r) : ∃ fs'', r = .inst cls fs'' ∧ skel fs'' = skel fs := by
  obtain ⟨n, fs', -, hr, -, rfl⟩ := replaceKw_inst_ok.mp h
  exact ⟨rebuild fs', rfl, by rw [rebuild_skel, fieldLoop_skel hr]⟩

example : unflattenSplit [(['q', '.', 'a'], Val.int 1)] = .ok [(['q'], .dict [(['a'], .int 1)])] := rfl

/-! ### errors at any depth -/

/-- the change set addresses, along the path `p` (through dataclass instances and nested dict entries), a field
    that is `init=False` or does not exist -/
def badAt : List Str → Val → Dict → Bool
  | [], _, _ => false
  | k :: rest, .inst _ fs, ch =>
    match unflattenSplit ch with
    | .ok n =>
      match dget n k with
      | Option.none => false
      | some x =>
        match getFld fs k with
        | Option.none => true                                   -- unknown field
        | some f =>
          if !f.init then true                                  -- init=False field (also at an intermediate position)
          else match f.val, x with
            | .inst c sub, .dict fc => badAt rest (.inst c sub) fc
            | _, _ => false
    | .error _ => false
  | _ :: _, _, _ => false

/-- **Errors at any depth**: a change to an `init=False` or unknown field, however deep and in whatever form,
    never returns normally (it is never ignored). -/
theorem c18_bad_path_raises (p : List Str) : ∀ (obj : Val) (ch : Dict), badAt p obj ch = true →
    ∀ r, replaceKw obj ch ≠ .ok r := by
  induction p with
  | nil => intro obj ch h; cases h
  | cons k rest ih =>
    intro obj ch hbad r h
    cases obj with
    | inst cls fs =>
      obtain ⟨n, fs', hu, hr, hlo, -⟩ := replaceKw_inst_ok.mp h
      unfold badAt at hbad
      simp only [hu] at hbad
      cases hk : dget n k with
      | none => rw [hk] at hbad; cases hbad
      | some x =>
        cases hf : getFld fs k with
        | none =>
          -- an unknown name is left over, and leftovers are rejected (replace.py:110)
          have := selLeft_keeps_unknown fs n k hf
          rw [hlo, hk] at this
          cases this
        | some f =>
          obtain ⟨v', -, hstep⟩ := fieldLoop_spec hr hf
          rw [hk, fieldStep_some_ok] at hstep
          simp only [hk, hf, hstep.1, Bool.not_true, Bool.false_eq_true, if_false] at hbad
          split at hbad
          · rename_i cl sub fc hv
            rw [hv] at hstep
            exact ih _ fc hbad v' hstep.2
          · cases hbad
    | _ => cases hbad

/-! ### reference: `dataclasses.replace` level by level -/

section Reference
variable {cls k : Str} {f : Fld} {fs fs' : List Fld} {r x v' : Val}

theorem setField_inv (h : setField fs k x = some fs') :
    ∃ f, getFld fs k = some f ∧ f.init = true ∧ getFld fs' k = some (.mk f.name true x f.dflt) := by
  induction fs generalizing fs' with
  | nil => cases h
  | cons f0 rest ih =>
    rw [setField_cons] at h
    rw [getFld_cons]
    by_cases hk : f0.name = k
    · rw [if_pos hk] at h ⊢
      cases hi : f0.init with
      | false => rw [hi] at h; cases h
      | true => rw [hi, if_pos rfl] at h; cases h; exact ⟨f0, rfl, hi, by rw [getFld, if_pos hk]⟩
    · rw [if_neg hk] at h ⊢
      obtain ⟨r, hr, rfl⟩ := Option.map_eq_some_iff.mp h
      rw [getFld_cons, if_neg hk]
      exact ih hr

theorem refEdit_single (cls : Str) (fs : List Fld) (k : Str) (x : Val) :
    refEdit (.inst cls fs) [k] x = (setField fs k x).map fun fs' => .inst cls (rebuild fs') := rfl

theorem replaceKw_single_ok (hk : '.' ∉ k) (hf : getFld fs k = some f) (hi : f.init = true)
    (hs : stepVal f.val x = .ok v') :
    ∃ r, replaceKw (.inst cls fs) [(k, x)] = .ok r ∧ refEdit (.inst cls fs) [k] v' = some r := by
  obtain ⟨fs', hset, hl⟩ := fieldLoop_single (fun _ _ => rfl) hf hi (fieldStep_some_ok.mpr ⟨hi, hs⟩)
  exact ⟨_, replaceKw_inst_ok.mpr ⟨_, fs', unflattenSplit_single k x hk, hl, by rw [selLeft_single, hf]; rfl, rfl⟩,
    by rw [refEdit_single, hset]; rfl⟩

/-- both sides fail on an `init=False` field, so the same holds as an equivalence without `hi` -/
theorem replaceKw_single (hk : '.' ∉ k) (hf : getFld fs k = some f) :
    replaceKw (.inst cls fs) [(k, x)] = .ok r ↔
      ∃ v', stepVal f.val x = .ok v' ∧ refEdit (.inst cls fs) [k] v' = some r := by
  constructor
  · intro h
    obtain ⟨n, fs', hu, hr, -, -⟩ := replaceKw_inst_ok.mp h
    rw [unflattenSplit_single k x hk] at hu
    cases hu
    obtain ⟨v', -, hstep⟩ := fieldLoop_spec hr hf
    rw [dget_single_self, fieldStep_some_ok] at hstep
    obtain ⟨r', h', href⟩ := replaceKw_single_ok (cls := cls) hk hf hstep.1 hstep.2
    rw [h] at h'
    cases h'
    exact ⟨v', hstep.2, href⟩
  · rintro ⟨v', hs, href⟩
    have hi : f.init = true := by
      rw [refEdit_single] at href
      obtain ⟨fs', hset, -⟩ := Option.map_eq_some_iff.mp href
      obtain ⟨f1, hf1, hi, -⟩ := setField_inv hset
      rw [hf] at hf1
      cases hf1
      exact hi
    obtain ⟨r', h', href'⟩ := replaceKw_single_ok (cls := cls) hk hf hi hs
    rw [href] at href'
    cases href'
    exact h'

theorem refEdit_cons_cons {k2 : Str} {rest : List Str} :
    refEdit (.inst cls fs) (k :: k2 :: rest) x = some r ↔
      ∃ sub, getField fs k = some sub ∧
        ∃ sub', refEdit sub (k2 :: rest) x = some sub' ∧ refEdit (.inst cls fs) [k] sub' = some r := by
  conv => lhs; unfold refEdit
  constructor
  · intro h
    cases hg : getField fs k with
    | none => rw [hg] at h; cases h
    | some sub =>
      rw [hg] at h
      dsimp only at h
      cases hr : refEdit sub (k2 :: rest) x with
      | none => rw [hr] at h; cases h
      | some sub' => rw [hr] at h; exact ⟨sub, rfl, sub', hr, h⟩
  · rintro ⟨sub, hg, sub', hr, h⟩
    rw [hg]
    dsimp only
    rw [hr]
    exact h

theorem getPath_refEdit_single
    (h : refEdit (.inst cls fs) [k] x = some r) (rest : List Str) : getPath r (k :: rest) = getPath x rest := by
  rw [refEdit_single] at h
  obtain ⟨fs', hset, rfl⟩ := Option.map_eq_some_iff.mp h
  obtain ⟨f, -, -, hg⟩ := setField_inv hset
  rw [getPath_cons_inst, getFld_rebuild_init hg rfl]
  rfl

/-- what `dataclasses.replace` level by level writes can be read back -/
theorem getPath_refEdit (p : List Str) : ∀ (obj v r : Val), refEdit obj p v = some r → getPath r p = some v := by
  induction p with
  | nil => intro obj v r h; cases obj <;> cases h
  | cons k rest ih =>
    intro obj v r h
    cases rest with
    | nil =>
      cases obj with
      | inst c fs => rw [getPath_refEdit_single h]; rfl
      | _ => cases h
    | cons k2 r2 =>
      cases obj with
      | inst c fs =>
        obtain ⟨sub, -, sub', hr, h1⟩ := refEdit_cons_cons.mp h
        rw [getPath_refEdit_single h1]
        exact ih sub v sub' hr
      | _ => cases h

end Reference

/-- **Reference.** One edit, in nested form and at any depth, returns `r` exactly when
    `dataclasses.replace(obj, a=dataclasses.replace(obj.a, b=…))` applied level by level gives `r` (D19 excluded:
    the path must exist in `obj`). With `c18_forms_dotted_nested` the same holds for the dotted form. -/
theorem c18_reference_single (p : List Str) : ∀ (obj old v : Val), p ≠ [] → DotFree p →
    getPath obj p = some old → storedAsIs old v = true →
    ∀ r, replaceKw obj (nestOf p v) = .ok r ↔ refEdit obj p v = some r := by
  induction p with
  | nil => intro obj old v hne; exact absurd rfl hne
  | cons k rest ih =>
    intro obj old v _ hd hp hs r
    obtain ⟨cls, fs, f, rfl, hf, hp⟩ := getPath_cons_inv hp
    have hk := hd k List.mem_cons_self
    cases rest with
    | nil =>
      cases hp
      simp only [nestOf, replaceKw_single hk hf, stepVal_of_storedAsIs hs, Except.ok.injEq, exists_eq_left']
    | cons k2 r2 =>
      have hg : getField fs k = some f.val := by rw [getField_eq, hf]; rfl
      simp only [nestOf, replaceKw_single hk hf, refEdit_cons_cons, hg, Option.some.injEq, exists_eq_left',
        stepVal_below hp, ih f.val old v (List.cons_ne_nil _ _) hd.tail hp hs]

example : refEdit (.inst ['T'] [.mk ['m'] true (.inst ['M'] [.mk ['v'] true (.int 0) .none]) .none]) [['m'], ['v']] (.int 3)
    = some (.inst ['T'] [.mk ['m'] true (.inst ['M'] [.mk ['v'] true (.int 3) .none]) .none]) := rfl

/-- **Success.** One edit in nested form whose path exists in `obj` and runs through init fields DOES return
    (the property's "returns a new object"; with `c18_forms_dotted_nested` also in dotted form). -/
theorem c18_succeeds_single (p : List Str) : ∀ (obj old v : Val), p ≠ [] → DotFree p →
    getPath obj p = some old → initPath p obj = true → storedAsIs old v = true →
    ∃ r, replaceKw obj (nestOf p v) = .ok r := by
  induction p with
  | nil => intro obj old v hne; exact absurd rfl hne
  | cons k rest ih =>
    intro obj old v _ hd hp hin hs
    obtain ⟨cls, fs, f, rfl, hf, hp⟩ := getPath_cons_inv hp
    unfold initPath at hin
    simp only [hf, Bool.and_eq_true] at hin
    have hk := hd k List.mem_cons_self
    cases rest with
    | nil => cases hp; exact (replaceKw_single_ok hk hf hin.1 (stepVal_of_storedAsIs hs)).imp fun _ h => h.1
    | cons k2 r2 =>
      obtain ⟨r', hr'⟩ := ih f.val old v (List.cons_ne_nil _ _) hd.tail hp hin.2 hs
      exact (replaceKw_single_ok hk hf hin.1 ((stepVal_below hp).mpr hr')).imp fun _ h => h.1

/-- **Reference as an equivalence**: for a valid single edit, `replace` returns `r` exactly when
    `dataclasses.replace` applied level by level gives `r`. -/
theorem c18_reference_iff (p : List Str) (obj old v r : Val) (hne : p ≠ []) (hd : DotFree p)
    (hp : getPath obj p = some old) (hin : initPath p obj = true) (hs : storedAsIs old v = true) :
    replaceKw obj (nestOf p v) = .ok r ↔ refEdit obj p v = some r :=
  c18_reference_single p obj old v hne hd hp hs r

/-! ### several edits: the forms are interchangeable per subtree, in any mixture -/

/-- first component of a path (the top-level field an edit belongs to) -/
def headOf (p : List Str) : Str := p.headD []

/-- the top-level entry of the nested form of one edit -/
def entryOf (e : List Str × Val) : Str × Val :=
  match e.1 with
  | [] => ([], e.2)
  | [k] => (k, e.2)
  | k :: k2 :: rest => (k, .dict (nestOf (k2 :: rest) e.2))

/-- one edit written in the dotted (`true`) or in the nested (`false`) form -/
def renderOne (dotted : Bool) (e : List Str × Val) : Str × Val :=
  if dotted then (joinDot e.1, e.2) else entryOf e

theorem entryOf_fst (e : List Str × Val) (hne : e.1 ≠ []) : (entryOf e).1 = headOf e.1 := by
  obtain ⟨p, v⟩ := e
  cases p with
  | nil => exact absurd rfl hne
  | cons k rest => cases rest <;> rfl

theorem dset_append_of_none (d : Dict) (k : Str) (x : Val) (h : dget d k = Option.none) :
    dset d k x = d ++ [(k, x)] := by
  induction d with
  | nil => rfl
  | cons kv r ih =>
    obtain ⟨a, b⟩ := kv
    simp only [dget] at h
    by_cases hak : a = k
    · simp [hak] at h
    · simp only [hak, if_false] at h
      simp [dset, hak, ih h]

theorem dget_append_single_ne (d : Dict) (kv : Str × Val) (k' : Str) (h : kv.1 ≠ k') :
    dget (d ++ [kv]) k' = dget d k' := by
  induction d with
  | nil => obtain ⟨k, x⟩ := kv; simp only [List.nil_append, dget, if_neg h]
  | cons kv r ih => obtain ⟨a, b⟩ := kv; simp only [List.cons_append, dget, ih]

/-- writing an edit whose top-level field is not yet in the accumulator appends its nested entry -/
theorem setPath_fresh (acc : Dict) (p : List Str) (v : Val) (hne : p ≠ [])
    (h : dget acc (headOf p) = Option.none) : setPath acc p v = .ok (acc ++ [entryOf (p, v)]) := by
  cases p with
  | nil => exact absurd rfl hne
  | cons k rest =>
    simp only [headOf, List.headD_cons] at h
    cases rest with
    | nil => simp [setPath, entryOf, dset_append_of_none acc k v h]
    | cons k2 r =>
      simp only [setPath, h, setPath_nil_eq (k2 :: r) v (List.cons_ne_nil _ _), entryOf]
      rw [dset_append_of_none acc k _ h]

theorem setPath_renderOne (acc : Dict) (b : Bool) (e : List Str × Val) (hne : e.1 ≠ []) (hd : DotFree e.1)
    (h : dget acc (headOf e.1) = Option.none) :
    setPath acc (splitDot (renderOne b e).1) (renderOne b e).2 = .ok (acc ++ [entryOf e]) := by
  cases b with
  | true =>
    simp only [renderOne, if_true, splitDot, joinDot, splitOnChar_join '.' e.1 hne hd]
    exact setPath_fresh acc e.1 e.2 hne h
  | false =>
    have hk : splitDot (entryOf e).1 = [(entryOf e).1] := by
      rw [entryOf_fst e hne]
      obtain ⟨p, v⟩ := e
      cases p with
      | nil => exact absurd rfl hne
      | cons k rest => exact splitOnChar_of_not_mem '.' k (hd k List.mem_cons_self)
    simp only [renderOne, Bool.false_eq_true, if_false, hk, setPath]
    rw [entryOf_fst e hne, dset_append_of_none acc _ _ h, ← entryOf_fst e hne]

/-- **`unflatten_split` of a change set with one form per top-level field** (any mixture of dotted and nested
    entries, in the given order) is the list of nested entries — whatever form each edit was written in. -/
theorem unflattenFrom_render (es : List (List Str × Val)) : ∀ (cs : List Bool) (acc : Dict),
    cs.length = es.length → (∀ e ∈ es, e.1 ≠ [] ∧ DotFree e.1) → (es.map (fun e => headOf e.1)).Nodup →
    (∀ e ∈ es, dget acc (headOf e.1) = Option.none) →
    unflattenFrom acc ((List.zipWith renderOne cs es).map (fun kv => (splitDot kv.1, kv.2))) = .ok (acc ++ es.map entryOf) := by
  induction es with
  | nil =>
    intro cs acc hl _ _ _
    cases cs with
    | nil => rw [List.map_nil, List.append_nil]; rfl
    | cons c cs' => cases hl
  | cons e es' ih =>
    intro cs acc hl hok hnd hacc
    cases cs with
    | nil => cases hl
    | cons c cs' =>
      obtain ⟨⟨hne, hd⟩, hok'⟩ := List.forall_mem_cons.mp hok
      obtain ⟨hacc0, hacc'⟩ := List.forall_mem_cons.mp hacc
      obtain ⟨hnd0, hnd'⟩ := List.nodup_cons.mp hnd
      simp only [List.zipWith_cons_cons, List.map_cons, unflattenFrom, setPath_renderOne acc c e hne hd hacc0]
      -- the entry just written is under the head of `e`, which no later edit shares
      rw [ih cs' (acc ++ [entryOf e]) (Nat.succ.inj hl) hok' hnd' ?_, List.append_assoc]
      · rfl
      · intro x hx
        rw [dget_append_single_ne acc _ _ ?_]
        · exact hacc' x hx
        · rw [entryOf_fst e hne]
          exact fun heq => hnd0 (List.mem_map.mpr ⟨x, hx, heq.symm⟩)

/-- a well-formed list of edits: non-empty dot-free paths with pairwise distinct top-level fields -/
def EditsOk (es : List (List Str × Val)) : Prop :=
  (∀ e ∈ es, e.1 ≠ [] ∧ DotFree e.1) ∧ (es.map (fun e => headOf e.1)).Nodup

theorem unflattenSplit_render (es : List (List Str × Val)) (cs : List Bool) (hl : cs.length = es.length)
    (hes : EditsOk es) : unflattenSplit (List.zipWith renderOne cs es) = .ok (es.map entryOf) :=
  unflattenFrom_render es cs [] hl hes.1 hes.2 (fun _ _ => rfl)

/-- **The forms are interchangeable for change sets with several edits**: for edits with pairwise distinct
    top-level fields, writing each one in the dotted or in the nested form — in any mixture — gives the same
    `replace` outcome (result or error). -/
theorem c18_forms_multi (obj : Val) (es : List (List Str × Val)) (cs1 cs2 : List Bool)
    (h1 : cs1.length = es.length) (h2 : cs2.length = es.length) (hes : EditsOk es) :
    replaceKw obj (List.zipWith renderOne cs1 es) = replaceKw obj (List.zipWith renderOne cs2 es) :=
  replaceKw_congr obj (by rw [unflattenSplit_render es cs1 h1 hes, unflattenSplit_render es cs2 h2 hes])

theorem dget_map_entryOf (es : List (List Str × Val)) (e : List Str × Val)
    (hne : ∀ x ∈ es, x.1 ≠ []) (hnd : (es.map (fun x => headOf x.1)).Nodup) (he : e ∈ es) :
    dget (es.map entryOf) (headOf e.1) = some (entryOf e).2 := by
  induction es with
  | nil => cases he
  | cons e0 es' ih =>
    obtain ⟨hne0, hne'⟩ := List.forall_mem_cons.mp hne
    obtain ⟨hnd0, hnd'⟩ := List.nodup_cons.mp hnd
    show dget (((entryOf e0).1, (entryOf e0).2) :: es'.map entryOf) (headOf e.1) = _
    rw [dget, entryOf_fst e0 hne0]
    rcases List.mem_cons.mp he with rfl | he
    · rw [if_pos rfl]
    · rw [if_neg fun heq => hnd0 (List.mem_map.mpr ⟨e, he, heq.symm⟩)]
      exact ih hne' hnd' he

/-- **`leafAt` on written change sets**: in a change set with one form per top-level field, every edit `(p, v)`
    — written dotted or nested, wherever it stands — is assigned its value: `leafAt ch p = some v`.  (This ties
    `leafAt`, hence `c18_addressed_partial`, to the syntax of multi-key change sets.) -/
theorem leafAt_render (es : List (List Str × Val)) (cs : List Bool) (hl : cs.length = es.length)
    (hes : EditsOk es) (e : List Str × Val) (he : e ∈ es) :
    leafAt (List.zipWith renderOne cs es) e.1 = some e.2 := by
  have hu := unflattenSplit_render es cs hl hes
  have hg := dget_map_entryOf es e (fun x hx => (hes.1 x hx).1) hes.2 he
  obtain ⟨hne, hd⟩ := hes.1 e he
  obtain ⟨p, v⟩ := e
  cases p with
  | nil => exact absurd rfl hne
  | cons k rest =>
    cases rest with
    | nil => simp only [leafAt, hu]; exact hg
    | cons k2 r =>
      simp only [headOf, List.headD_cons, entryOf] at hg
      simp only [leafAt, hu, hg]
      exact leafAt_of_unflat (k2 :: r) v _ (List.cons_ne_nil _ _) hd.tail
        (unflatten_nested (k2 :: r) v (List.cons_ne_nil _ _) hd.tail)

/-- corollary: **every addressed leaf of a multi-edit change set**, in any mixture of forms, holds its new value
    (D19 exclusion as in `c18_addressed_partial`) -/
theorem c18_addressed_multi (obj r old : Val) (es : List (List Str × Val)) (cs : List Bool)
    (hl : cs.length = es.length) (hes : EditsOk es) (e : List Str × Val) (he : e ∈ es)
    (h : replaceKw obj (List.zipWith renderOne cs es) = .ok r) (hp : getPath obj e.1 = some old)
    (hs : storedAsIs old e.2 = true) : getPath r e.1 = some e.2 :=
  c18_addressed_partial e.1 obj _ r e.2 old h (leafAt_render es cs hl hes e he) hp hs

/-- the top-level lookup of such a change set does not depend on the forms chosen -/
theorem leafAt_render_head (es : List (List Str × Val)) (cs : List Bool) (hl : cs.length = es.length)
    (hes : EditsOk es) (k : Str) :
    (match unflattenSplit (List.zipWith renderOne cs es) with | .ok n => dget n k | .error _ => Option.none) =
      dget (es.map entryOf) k := by
  rw [unflattenSplit_render es cs hl hes]

example : EditsOk [([['m'], ['v']], Val.int 3), ([['z']], Val.int 4)] := by
  unfold EditsOk DotFree; decide +kernel

example : List.zipWith renderOne [true, false] [([['m'], ['v']], Val.int 3), ([['z']], Val.int 4)] =
    [(['m', '.', 'v'], .int 3), (['z'], .int 4)] := by rfl
example : List.zipWith renderOne [false, false] [([['m'], ['v']], Val.int 3), ([['z']], Val.int 4)] =
    [(['m'], .dict [(['v'], .int 3)]), (['z'], .int 4)] := by rfl

/-! ### non-vacuity: concrete inputs satisfying the hypotheses of the theorems above -/

def exObj : Val := .inst ['T'] [.mk ['m'] true (.inst ['M'] [.mk ['v'] true (.int 0) .none,
                                                               .mk ['w'] true (.str ['w']) .none,
                                                               .mk ['n'] false (.int 7) (.int 7)]) .none,
                                .mk ['z'] true (.int 3) .none]
def exRes : Val := .inst ['T'] [.mk ['m'] true (.inst ['M'] [.mk ['v'] true (.int 3) .none,
                                                               .mk ['w'] true (.str ['w']) .none,
                                                               .mk ['n'] false (.int 7) (.int 7)]) .none,
                                .mk ['z'] true (.int 4) .none]
def exCh : Dict := [(['m', '.', 'v'], .int 3), (['z'], .int 4)]

/-- hypotheses of `c18_addressed_partial` / `c18_frame` on a depth-2 instance with a mixed change set -/
example : replaceKw exObj exCh = .ok exRes ∧ leafAt exCh [['m'], ['v']] = some (.int 3) ∧
    getPath exObj [['m'], ['v']] = some (.int 0) ∧ storedAsIs (.int 0) (.int 3) = true ∧
    untouched exCh [['m'], ['w']] = true ∧ initPath [['m'], ['w']] exObj = true :=
  ⟨rfl, rfl, rfl, by decide +kernel, by decide +kernel, by decide +kernel⟩

/-- hypotheses of `c18_bad_path_raises`: a nested entry that reaches an `init=False` field, and an unknown field -/
example : unflattenSplit [(['n'], Val.int 1)] = .ok [(['n'], .int 1)] ∧
    getFld [Fld.mk ['v'] true (.int 0) .none, .mk ['n'] false (.int 7) (.int 7)] ['n'] = some (.mk ['n'] false (.int 7) (.int 7)) :=
  ⟨rfl, rfl⟩
example : (∃ e, replaceKw exObj [(['m', '.', 'n'], .int 1)] = .error (.raise e)) ∧
    (∃ e, replaceKw exObj [(['q', 'q'], .int 1)] = .error (.raise e)) := ⟨⟨_, rfl⟩, ⟨_, rfl⟩⟩

/-- all hypotheses of `c18_reference_single` / `c18_succeeds_single` / `c18_reference_iff` together, depth 2 -/
example : DotFree [['m'], ['v']] ∧ getPath exObj [['m'], ['v']] = some (.int 0) ∧ initPath [['m'], ['v']] exObj = true ∧
    storedAsIs (.int 0) (.int 3) = true ∧
    (∃ r, replaceKw exObj (nestOf [['m'], ['v']] (.int 3)) = .ok r ∧ refEdit exObj [['m'], ['v']] (.int 3) = some r) :=
  ⟨by unfold DotFree; decide +kernel, rfl, by decide +kernel, by decide +kernel, ⟨_, rfl, rfl⟩⟩

example : badAt [['m'], ['n']] exObj [(['m', '.', 'n'], .int 1)] = true := by decide +kernel
example : badAt [['m'], ['q']] exObj [(['m'], .dict [(['q'], .int 1)])] = true := by decide +kernel

/-! ### replace_subgroups -/

theorem splitDot_join2 (a b : Str) (ha : '.' ∉ a) (hb : '.' ∉ b) : splitDot (joinDot [a, b]) = [a, b] :=
  splitOnChar_join '.' [a, b] (by simp) (by intro s hs; simp at hs; rcases hs with rfl | rfl <;> assumption)

theorem unflattenSel_single (k : Str) (x : Val) (hk : '.' ∉ k) : unflattenSel [(k, x)] = [(k, x)] := by
  have hs : splitDot k = [k] := splitOnChar_of_not_mem '.' k hk
  unfold unflattenSel selTops selStep
  simp only [List.foldl, List.filterMap, hs]
  rfl

theorem unflattenSel_dotted2 (a b : Str) (x : Val) (ha : '.' ∉ a) (hb : '.' ∉ b) :
    unflattenSel [(joinDot [a, b], x)] = [(a, .dict [(b, x)])] := by
  unfold unflattenSel selTops selStep
  simp only [List.foldl, List.filterMap, splitDot_join2 a b ha hb]
  simp [dset, dget, joinWith]

section SgLoop
variable {tbl : SgTable} {recur : Val → Dict → Out Val} {cls n : Str} {f : Fld} {fs fs' : List Fld}
  {sel : Dict} {s1 s2 v : Val} {o : Option Val}

/-- replace.py:142-190 for a selected field that holds `v`: the member picked by the entry `s`, with the child
    selections (if any) applied to it by the recursive call -/
def sgStep (tbl : SgTable) (recur : Val → Dict → Out Val) (cls n : Str) (v s : Val) : Out Val :=
  if (sgMeta tbl cls n).hasDc then
    (pickMember (sgMeta tbl cls n) v (selSplit s).1 (!(selSplit s).2.isEmpty)).bind fun fv =>
      if (selSplit s).2.isEmpty then .ok fv else recur fv (selSplit s).2
  else .error (.raise .valueError)

/-- replace.py:131-190, the new value of field `f` given the entry of the (grouped) selection dict under its name;
    a field that is not an init field fails, selected or not -/
def sgFieldStep (tbl : SgTable) (recur : Val → Dict → Out Val) (cls : Str) (f : Fld) (o : Option Val) : Out Val :=
  if f.init then (match o with | Option.none => .ok f.val | some s => sgStep tbl recur cls f.name f.val s)
  else .error (.raise .valueError)

theorem sgFieldStep_init (h : sgFieldStep tbl recur cls f o = .ok v) : f.init = true := by
  cases hi : f.init with
  | true => rfl
  | false => unfold sgFieldStep at h; rw [hi] at h; cases h

theorem sgFieldStep_of_init (hi : f.init = true) :
    sgFieldStep tbl recur cls f o =
      match o with | Option.none => .ok f.val | some s => sgStep tbl recur cls f.name f.val s := if_pos hi

theorem sgFieldStep_congr_selSplit (h : selSplit s1 = selSplit s2) (f : Fld) :
    sgFieldStep tbl recur cls f (some s1) = sgFieldStep tbl recur cls f (some s2) := by
  unfold sgFieldStep sgStep
  simp only [h]

theorem sgFields_eq (fs : List Fld) (sel : Dict) :
    sgFields tbl recur cls fs sel = fieldLoop (sgFieldStep tbl recur cls) fs sel := by
  induction fs generalizing sel with
  | nil => rfl
  | cons f rest ih =>
    obtain ⟨n, i, v, d⟩ := f
    unfold sgFields fieldLoop
    show _ = (sgFieldStep tbl recur cls (.mk n i v d) (dget sel n)).bind fun nv =>
      (fieldLoop (sgFieldStep tbl recur cls) rest (ddel sel n)).map (.mk n i nv d :: ·)
    cases i with
    | false => rfl
    | true =>
      cases hg : dget sel n with
      | none =>
        rw [ih, ddel_of_dget_none sel n hg]
        cases fieldLoop (sgFieldStep tbl recur cls) rest sel <;> rfl
      | some s =>
        rw [ih (ddel sel n)]
        dsimp only [sgFieldStep, sgStep, Fld.init, Fld.name, Fld.val]
        cases (sgMeta tbl cls n).hasDc with
        | false => rfl
        | true =>
          cases pickMember (sgMeta tbl cls n) v (selSplit s).1 (!(selSplit s).2.isEmpty) with
          | error e => rfl
          | ok fv =>
            dsimp only [Except.bind]
            cases (selSplit s).2.isEmpty with
            | true => cases fieldLoop (sgFieldStep tbl recur cls) rest (ddel sel n) <;> rfl
            | false =>
              cases recur fv (selSplit s).2 with
              | error e => rfl
              | ok nv => cases fieldLoop (sgFieldStep tbl recur cls) rest (ddel sel n) <;> rfl

/-- `replace_subgroups` only ever succeeds on classes without `init=False` fields (replace.py:131), so `cls(**kwargs)`
    hands every field back as it is -/
theorem sgLoop_rebuild (h : fieldLoop (sgFieldStep tbl recur cls) fs sel = .ok fs') : rebuild fs' = fs' := by
  induction fs generalizing sel fs' with
  | nil => cases h; rfl
  | cons f rest ih =>
    obtain ⟨nv, r, hs, hr, rfl⟩ := fieldLoop_cons_inv h
    rw [rebuild_cons, ih hr]
    exact congrArg (· :: r) (if_pos (sgFieldStep_init hs))

theorem sgStep_leaf {v s : Val} (hdc : (sgMeta tbl cls n).hasDc = true) (hs : selSplit s = (s, [])) :
    sgStep tbl recur cls n v s = pickOther (sgMeta tbl cls n) v s := by
  unfold sgStep
  rw [if_pos hdc, hs]
  -- without child selections `pickMember` is `pickOther`
  show (pickOther (sgMeta tbl cls n) v s).bind _ = _
  cases pickOther (sgMeta tbl cls n) v s <;> rfl

/-- repair 452ee05: with child selections and no own value, the current instance is kept — for EVERY kind of
    field — and the child selections are applied to it -/
theorem sgStep_child {b : Str} {x nv : Val} {c2 : Str} {fs2 : List Fld} (hbk : b ≠ keyword) :
    sgStep tbl recur cls n (.inst c2 fs2) (.dict [(b, x)]) = .ok nv ↔
      (sgMeta tbl cls n).hasDc = true ∧ recur (.inst c2 fs2) [(b, x)] = .ok nv := by
  have hval : selSplit (.dict [(b, x)]) = (.none, [(b, x)]) := by unfold selSplit; simp [dget, ddel, hbk]
  unfold sgStep
  rw [hval]
  unfold pickMember descends
  cases (sgMeta tbl cls n).hasDc <;> simp [Except.bind]

end SgLoop

theorem c18_subgroups_empty (tbl : SgTable) (fuel : Nat) (obj : Val) : replaceSg tbl fuel obj [] = .ok obj := by
  cases fuel <;> rfl

/-! #### nested selections: frame and sibling theorems (after repair bb5a5f4) -/

theorem replaceSg_inv {tbl : SgTable} {fuel : Nat} {obj : Val} {s : Str × Val} {sel : Dict} {r : Val}
    (h : replaceSg tbl fuel obj (s :: sel) = .ok r) :
    ∃ fuel' cls fs fs', fuel = fuel' + 1 ∧ obj = .inst cls fs ∧
      fieldLoop (sgFieldStep tbl (replaceSg tbl fuel') cls) fs (unflattenSel (s :: sel)) = .ok fs' ∧ r = .inst cls fs' ∧
      (selLeft fs (unflattenSel (s :: sel))).isEmpty = true := by
  cases fuel with
  | zero => cases h
  | succ fuel' =>
    cases obj with
    | inst cls fs =>
      unfold replaceSg at h
      rw [sgFields_eq] at h
      cases hf : fieldLoop (sgFieldStep tbl (replaceSg tbl fuel') cls) fs (unflattenSel (s :: sel)) with
      | error e => rw [hf] at h; cases h
      | ok fs' =>
        rw [hf] at h
        dsimp only at h
        cases hl : (selLeft fs (unflattenSel (s :: sel))).isEmpty with
        | false => rw [hl] at h; cases h
        | true =>
          rw [hl, if_pos rfl, sgLoop_rebuild hf] at h
          cases h
          exact ⟨fuel', cls, fs, fs', rfl, rfl, hf, rfl, hl⟩
    | _ => cases h

/-- **Frame for replace_subgroups.** Every member that no selection names (after the dotted keys have been
    grouped by their first component) is, in the result, exactly what it was — for selections in any form. -/
theorem c18_subgroups_frame (tbl : SgTable) (fuel : Nat) (obj r : Val) (sel : Dict) (k : Str)
    (h : replaceSg tbl fuel obj sel = .ok r) (hk : dget (unflattenSel sel) k = Option.none) :
    getPath r [k] = getPath obj [k] := by
  cases sel with
  | nil => rw [c18_subgroups_empty] at h; cases h; rfl
  | cons s sel' =>
    obtain ⟨fuel', cls, fs, fs', rfl, rfl, hf, rfl, -⟩ := replaceSg_inv h
    simp only [getPath_cons_inst]
    rw [fieldLoop_frame (fun g v hg => ?_) hf hk]
    rw [sgFieldStep_of_init (sgFieldStep_init hg)] at hg
    exact (Except.ok.inj hg).symm

theorem replaceSg_single {tbl : SgTable} {fuel : Nat} {cls : Str} {fs : List Fld} {e : Str × Val} {sel : Dict}
    {k : Str} {s nv : Val} {f : Fld} (hu : unflattenSel (e :: sel) = [(k, s)]) (hi : ∀ g ∈ fs, g.init = true)
    (hf : getFld fs k = some f) (hs : sgStep tbl (replaceSg tbl fuel) cls k f.val s = .ok nv) :
    ∃ r, replaceSg tbl (fuel + 1) (.inst cls fs) (e :: sel) = .ok r ∧ refEdit (.inst cls fs) [k] nv = some r := by
  obtain ⟨hmem, rfl⟩ := getFld_some hf
  have hif := hi f hmem
  obtain ⟨fs', hset, hl⟩ := fieldLoop_single (fun g hg => sgFieldStep_of_init (hi g hg)) hf hif
    ((sgFieldStep_of_init hif).trans hs)
  refine ⟨.inst cls (rebuild fs'), ?_, by rw [refEdit_single, hset]; rfl⟩
  unfold replaceSg
  rw [hu, sgFields_eq, hl, selLeft_single, hf]
  rfl

/-- **Nested selections keep every sibling** (full statement; it holds since repair bb5a5f4).
    Selecting only the member `a.b` below the dataclass-valued field `a` — in dotted form — leaves every
    other member `a.sib` of the current `obj.a` exactly as it was. -/
theorem c18_subgroups_siblings_kept {tbl : SgTable} {fuel : Nat} {obj r x : Val} {a b sib : Str}
    {c2 : Str} {fs2 : List Fld}
    (ha : '.' ∉ a) (hb : '.' ∉ b) (hbk : b ≠ keyword) (hsib : sib ≠ b)
    (hcur : getPath obj [a] = some (.inst c2 fs2))
    (h : replaceSg tbl fuel obj [(joinDot [a, b], x)] = .ok r) :
    getPath r [a, sib] = getPath obj [a, sib] := by
  obtain ⟨cls, fs, f, rfl, hf, hv⟩ := getPath_cons_inv hcur
  have hv : f.val = .inst c2 fs2 := Option.some.inj hv
  obtain ⟨fuel, c', fs0, fs', rfl, hobj, hfs, rfl, -⟩ := replaceSg_inv h
  cases hobj
  rw [unflattenSel_dotted2 a b x ha hb] at hfs
  obtain ⟨nv, hget, hs⟩ := fieldLoop_spec hfs hf
  rw [dget_single_self, sgFieldStep_of_init (sgFieldStep_init hs)] at hs
  dsimp only at hs
  -- the member picked for `a` is the current instance (replace.py:157), to which `{b: x}` is applied
  rw [hv, sgStep_child hbk] at hs
  have hfr := c18_subgroups_frame tbl fuel _ nv [(b, x)] sib hs.2
    (by rw [unflattenSel_single b x hb]; exact dget_single_ne x hsib.symm)
  rw [getPath_cons_inst, getPath_cons_inst, hget, hf]
  show getPath nv [sib] = getPath f.val [sib]
  rw [hv]
  exact hfr

/-! #### order of the entries of a flat selection

`_unflatten_selection_dict` (and `unflattenSel`, which mirrors it with insertion-ordered association
lists) is order-*sensitive* only in the insertion order of the dict it builds: a parent entry that comes
after its dotted children ends up *behind* them in the sub-dict (`{'b': x, '__key__': y}` instead of
`{'__key__': y, 'b': x}`).  `replace_subgroups` looks entries up by name, so the outcome does not depend on
that order. -/

theorem unflattenSel_child_parent (a b : Str) (x y : Val) (ha : '.' ∉ a) (hb : '.' ∉ b) (hbk : b ≠ keyword) :
    unflattenSel [(joinDot [a, b], x), (a, y)] = [(a, .dict [(b, x), (keyword, y)])] := by
  have hsa : splitDot a = [a] := splitOnChar_of_not_mem '.' a ha
  unfold unflattenSel selTops selStep
  simp only [List.foldl, List.filterMap, splitDot_join2 a b ha hb, hsa]
  simp [dset, dget, joinWith, hbk]

theorem unflattenSel_parent_child (a b : Str) (x y : Val) (ha : '.' ∉ a) (hb : '.' ∉ b) (hbk : b ≠ keyword) :
    unflattenSel [(a, y), (joinDot [a, b], x)] = [(a, .dict [(keyword, y), (b, x)])] := by
  have hsa : splitDot a = [a] := splitOnChar_of_not_mem '.' a ha
  have hkb : keyword ≠ b := fun e => hbk e.symm
  unfold unflattenSel selTops selStep
  simp only [List.foldl, List.filterMap, splitDot_join2 a b ha hb, hsa]
  simp [dset, dget, joinWith, hkb]

theorem replaceSg_congr (tbl : SgTable) (fuel : Nat) (obj : Val) {e1 e2 : Str × Val} {sel1 sel2 : Dict}
    (h : ∀ recur cls fs,
      sgFields tbl recur cls fs (unflattenSel (e1 :: sel1)) = sgFields tbl recur cls fs (unflattenSel (e2 :: sel2)) ∧
      (selLeft fs (unflattenSel (e1 :: sel1))).isEmpty = (selLeft fs (unflattenSel (e2 :: sel2))).isEmpty) :
    replaceSg tbl fuel obj (e1 :: sel1) = replaceSg tbl fuel obj (e2 :: sel2) := by
  cases fuel with
  | zero => rfl
  | succ f =>
    cases obj with
    | inst cls fs => unfold replaceSg; rw [(h (replaceSg tbl f) cls fs).1, (h (replaceSg tbl f) cls fs).2]
    | _ => rfl

/-- **The order of a parent entry and its dotted child entry does not matter**:
    `replace_subgroups(obj, {"a.b": x, "a": y})` = `replace_subgroups(obj, {"a": y, "a.b": x})`, whatever the outcome. -/
theorem c18_subgroups_entry_order (tbl : SgTable) (fuel : Nat) (obj x y : Val) (a b : Str)
    (ha : '.' ∉ a) (hb : '.' ∉ b) (hbk : b ≠ keyword) :
    replaceSg tbl fuel obj [(joinDot [a, b], x), (a, y)] = replaceSg tbl fuel obj [(a, y), (joinDot [a, b], x)] := by
  have hsp : selSplit (.dict [(b, x), (keyword, y)]) = selSplit (.dict [(keyword, y), (b, x)]) := by
    unfold selSplit
    simp [dget, ddel, hbk]
  refine replaceSg_congr tbl fuel obj fun recur cls fs => ?_
  rw [unflattenSel_child_parent a b x y ha hb hbk, unflattenSel_parent_child a b x y ha hb hbk,
    selLeft_single_isEmpty, selLeft_single_isEmpty]
  rw [sgFields_eq, sgFields_eq]
  exact ⟨fieldLoop_congr_single a (sgFieldStep_congr_selSplit hsp) fs, rfl⟩

example : ('.' ∉ ['m']) ∧ ('.' ∉ ['a', 'c', 't']) ∧ (['a', 'c', 't'] ≠ keyword) := by decide_lit

/-- hypotheses of `c18_subgroups_siblings_kept`, on the input that lost `n.k` before repair bb5a5f4:
    `c.n = AB(s=A(5), k=9)`, selection `{"n.s": "b"}` keeps `n.k == 9`. -/
example :
    let A5 : Val := .inst ['A'] [.mk ['a'] true (.int 5) .none]
    let B0 : Val := .inst ['B'] [.mk ['b'] true (.str ['x']) .none]
    let AB0 : Val := .inst ['A', 'B'] [.mk ['s'] true (.inst ['A'] [.mk ['a'] true (.int 0) .none]) .none,
                                       .mk ['k'] true (.int 0) .none]
    let obj : Val := .inst ['C'] [.mk ['n'] true (.inst ['A', 'B'] [.mk ['s'] true A5 .none, .mk ['k'] true (.int 9) .none]) .none]
    let tbl : SgTable := [((['C'], ['n']), { hasDc := true, isOpt := false, sg := Option.none, fac := some AB0 }),
                          ((['A', 'B'], ['s']), { hasDc := true, isOpt := false, sg := some [(['b'], B0)], fac := Option.none })]
    replaceSg tbl 3 obj [(joinDot [['n'], ['s']], .str ['b'])] =
      .ok (.inst ['C'] [.mk ['n'] true (.inst ['A', 'B'] [.mk ['s'] true B0 .none, .mk ['k'] true (.int 9) .none]) .none]) := rfl

/-! ### replace_subgroups: any kind of selection value, nested form, depth 2, pass-through parents, unknown keys
    (model at repairs abc6969 / 452ee05 / bba27c4) -/

/-- **replace_subgroups swaps exactly the selected member** (one-level selection by subgroup key): the result is
    `dataclasses.replace(obj, k=<the alternative registered under key>)` — nothing else changes. -/
theorem c18_subgroups_select {tbl : SgTable} (fuel : Nat) {cls : Str} {fs : List Fld}
    {k key : Str} {alts : Dict} {alt : Val} {f : Fld} (hk : '.' ∉ k)
    (hi : ∀ f ∈ fs, f.init = true) (hf : getFld fs k = some f)
    (hdc : (sgMeta tbl cls k).hasDc = true) (hsg : (sgMeta tbl cls k).sg = some alts)
    (halt : dget alts key = some alt) :
    ∃ r, replaceSg tbl (fuel + 1) (.inst cls fs) [(k, .str key)] = .ok r ∧
         refEdit (.inst cls fs) [k] alt = some r := by
  have hne : alts ≠ [] := by intro e; subst e; cases halt
  obtain ⟨a, as, rfl⟩ := List.exists_cons_of_ne_nil hne
  exact replaceSg_single (unflattenSel_single k _ hk) hi hf
    (by rw [sgStep_leaf hdc rfl]; unfold pickOther; simp only [hsg, halt])

/-- hypotheses of `c18_subgroups_select` -/
example : (sgMeta [((['C'], ['s']), { hasDc := true, isOpt := false, sg := some [(['b'], Val.int 1)], fac := Option.none })]
    ['C'] ['s']).sg = some [(['b'], Val.int 1)] := rfl

/-- **selection by dataclass type**: the member becomes `T()` — `dataclasses.replace(obj, k=T())`, nothing else changes -/
theorem c18_subgroups_select_type (tbl : SgTable) (fuel : Nat) (cls : Str) (fs : List Fld)
    (k c : Str) (mk : Val) (f : Fld) (hk : '.' ∉ k)
    (hi : ∀ f ∈ fs, f.init = true) (hf : getFld fs k = some f) (hdc : (sgMeta tbl cls k).hasDc = true) :
    ∃ r, replaceSg tbl (fuel + 1) (.inst cls fs) [(k, .type c mk)] = .ok r ∧
         refEdit (.inst cls fs) [k] mk = some r :=
  replaceSg_single (unflattenSel_single k _ hk) hi hf (by rw [sgStep_leaf hdc rfl]; rfl)

/-- **selection by dataclass instance**: the member becomes (a copy of) that instance -/
theorem c18_subgroups_select_inst (tbl : SgTable) (fuel : Nat) (cls : Str) (fs : List Fld)
    (k c : Str) (ifs : List Fld) (f : Fld) (hk : '.' ∉ k)
    (hi : ∀ f ∈ fs, f.init = true) (hf : getFld fs k = some f) (hdc : (sgMeta tbl cls k).hasDc = true) :
    ∃ r, replaceSg tbl (fuel + 1) (.inst cls fs) [(k, .inst c ifs)] = .ok r ∧
         refEdit (.inst cls fs) [k] (.inst c ifs) = some r :=
  replaceSg_single (unflattenSel_single k _ hk) hi hf (by rw [sgStep_leaf hdc rfl]; rfl)

/-- **nested form = flat form** for a selected parent with one child: `{"a": {"__key__": y, "b": x}}` is a fixed
    point of `_unflatten_selection_dict`, and by `unflattenSel_parent_child` it is what `{"a": y, "a.b": x}` becomes. -/
theorem c18_subgroups_nested_eq_flat (tbl : SgTable) (fuel : Nat) (obj x y : Val) (a b : Str)
    (ha : '.' ∉ a) (hb : '.' ∉ b) (hbk : b ≠ keyword) :
    replaceSg tbl fuel obj [(a, .dict [(keyword, y), (b, x)])] = replaceSg tbl fuel obj [(a, y), (joinDot [a, b], x)] :=
  replaceSg_congr tbl fuel obj fun _ _ _ => by
    rw [unflattenSel_single a _ ha, unflattenSel_parent_child a b x y ha hb hbk]
    exact ⟨rfl, rfl⟩

/-- **Pass-through selections (full, every kind of parent — after repair 452ee05).**  When only a member *below*
    the dataclass-valued field `a` is selected (plain, Optional, Union or subgroups field alike) and the selection
    succeeds on the current `obj.a`, it succeeds on `obj` and is `dataclasses.replace(obj, a=<obj.a with the
    selection applied>)`. -/
theorem c18_subgroups_passthrough {tbl : SgTable} {fuel : Nat} {cls : Str} {fs : List Fld} {a b : Str}
    {x r2 : Val} {c2 : Str} {fs2 : List Fld} {f : Fld}
    (ha : '.' ∉ a) (hb : '.' ∉ b) (hbk : b ≠ keyword) (hi : ∀ g ∈ fs, g.init = true)
    (hf : getFld fs a = some f) (hv : f.val = .inst c2 fs2)
    (hdc : (sgMeta tbl cls a).hasDc = true)
    (h2 : replaceSg tbl (fuel + 1) (.inst c2 fs2) [(b, x)] = .ok r2) :
    ∃ r, replaceSg tbl (fuel + 2) (.inst cls fs) [(joinDot [a, b], x)] = .ok r ∧
         refEdit (.inst cls fs) [a] r2 = some r :=
  replaceSg_single (unflattenSel_dotted2 a b x ha hb) hi hf (by rw [hv]; exact (sgStep_child hbk).mpr ⟨hdc, h2⟩)

/-- regression for repair 452ee05: `c.n : Optional[AB]` holds `AB(s=…, k=9)`; `{"n.s": "b"}` succeeds and keeps
    `n.k == 9` -/
example :
    let B0 : Val := .inst ['B'] [.mk ['b'] true (.str ['x']) .none]
    let tbl : SgTable := [((['C'], ['n']), { hasDc := true, isOpt := true, sg := Option.none, fac := Option.none }),
                          ((['A', 'B'], ['s']), { hasDc := true, isOpt := false, sg := some [(['b'], B0)], fac := Option.none })]
    replaceSg tbl 3 (.inst ['C'] [.mk ['n'] true (.inst ['A', 'B'] [.mk ['s'] true (.int 0) .none, .mk ['k'] true (.int 9) .none]) .none])
      [(joinDot [['n'], ['s']], .str ['b'])] =
      .ok (.inst ['C'] [.mk ['n'] true (.inst ['A', 'B'] [.mk ['s'] true B0 .none, .mk ['k'] true (.int 9) .none]) .none]) := rfl

/-- **The SELECTED member at depth 2**: selecting `a.b` by subgroup key below a dataclass-valued field `a` (of any
    kind) succeeds and is `dataclasses.replace(obj, a=dataclasses.replace(obj.a, b=<alternative>))` — level by level. -/
theorem c18_subgroups_nested_selected {tbl : SgTable} (fuel : Nat) {cls : Str} {fs : List Fld} {a b key : Str}
    {alts : Dict} {alt : Val} {c2 : Str} {fs2 : List Fld} {f f2 : Fld}
    (ha : '.' ∉ a) (hb : '.' ∉ b) (hbk : b ≠ keyword) (hi : ∀ g ∈ fs, g.init = true) (hi2 : ∀ g ∈ fs2, g.init = true)
    (hf : getFld fs a = some f) (hv : f.val = .inst c2 fs2) (hf2 : getFld fs2 b = some f2)
    (hdc : (sgMeta tbl cls a).hasDc = true)
    (hdc2 : (sgMeta tbl c2 b).hasDc = true) (hsg : (sgMeta tbl c2 b).sg = some alts) (halt : dget alts key = some alt) :
    ∃ r, replaceSg tbl (fuel + 2) (.inst cls fs) [(joinDot [a, b], .str key)] = .ok r ∧
         refEdit (.inst cls fs) [a, b] alt = some r := by
  obtain ⟨r2, h2, href2⟩ := c18_subgroups_select fuel hb hi2 hf2 hdc2 hsg halt
  obtain ⟨r, h1, href⟩ := c18_subgroups_passthrough ha hb hbk hi hf hv hdc h2
  have hg : getField fs a = some (.inst c2 fs2) := by rw [getField_eq, hf, ← hv]; rfl
  exact ⟨r, h1, refEdit_cons_cons.mpr ⟨_, hg, r2, href2, href⟩⟩

/-- corollary: after a depth-2 selection the member `a.b` IS the chosen alternative -/
theorem c18_subgroups_nested_selected_leaf (tbl : SgTable) (fuel : Nat) (cls : Str) (fs : List Fld) (a b key : Str)
    (alts : Dict) (alt : Val) (c2 : Str) (fs2 : List Fld) (f f2 : Fld)
    (ha : '.' ∉ a) (hb : '.' ∉ b) (hbk : b ≠ keyword) (hi : ∀ g ∈ fs, g.init = true) (hi2 : ∀ g ∈ fs2, g.init = true)
    (hf : getFld fs a = some f) (hv : f.val = .inst c2 fs2) (hf2 : getFld fs2 b = some f2)
    (hdc : (sgMeta tbl cls a).hasDc = true)
    (hdc2 : (sgMeta tbl c2 b).hasDc = true) (hsg : (sgMeta tbl c2 b).sg = some alts) (halt : dget alts key = some alt) :
    ∃ r, replaceSg tbl (fuel + 2) (.inst cls fs) [(joinDot [a, b], .str key)] = .ok r ∧ getPath r [a, b] = some alt := by
  obtain ⟨r, h1, h2⟩ := c18_subgroups_nested_selected fuel ha hb hbk hi hi2 hf hv hf2
    hdc hdc2 hsg halt
  exact ⟨r, h1, getPath_refEdit [a, b] _ alt r h2⟩

/-- **Unknown selection keys raise** (full — after repair bba27c4): a key of the (grouped) selection dict that names
    no field of `obj` means the call never returns normally, whatever else is selected. -/
theorem c18_subgroups_unknown_raises (tbl : SgTable) (fuel : Nat) (cls : Str) {fs : List Fld} {sel : Dict}
    {k : Str} {x : Val} (hk : dget (unflattenSel sel) k = some x) (hf : getFld fs k = Option.none) :
    ∀ r, replaceSg tbl fuel (.inst cls fs) sel ≠ .ok r := by
  intro r h
  cases sel with
  | nil => cases hk
  | cons s sel' =>
    obtain ⟨fuel', cls', fs', fs'', -, hobj, -, -, hl⟩ := replaceSg_inv h
    cases hobj
    -- the unknown key is still there after every field name has been popped
    have := selLeft_keeps_unknown fs (unflattenSel (s :: sel')) k hf
    rw [hk, List.isEmpty_iff.mp hl] at this
    cases this

theorem c18_subgroups_unknown_raises_single (tbl : SgTable) (fuel : Nat) (cls : Str) (fs : List Fld) (k : Str) (x : Val)
    (hk : '.' ∉ k) (hf : getFld fs k = Option.none) : ∀ r, replaceSg tbl fuel (.inst cls fs) [(k, x)] ≠ .ok r :=
  c18_subgroups_unknown_raises tbl fuel cls (by rw [unflattenSel_single k x hk]; exact dget_single_self k x) hf

/-- regression for repair bba27c4: `{"zz": "b"}` raises TypeError -/
example : replaceSg [] 1 (.inst ['C'] [.mk ['z'] true (.int 3) .none]) [(['z', 'z'], .str ['b'])] =
    .error (.raise .typeError) := rfl

/-- pass-through, total form: the call succeeds AND every sibling of the replaced member is kept
    (`c18_subgroups_siblings_kept` with its success hypothesis discharged, for every kind of parent). -/
theorem c18_subgroups_passthrough_keeps_siblings (tbl : SgTable) (fuel : Nat) (cls : Str) (fs : List Fld) (a b : Str)
    (x r2 : Val) (c2 : Str) (fs2 : List Fld) (f : Fld)
    (ha : '.' ∉ a) (hb : '.' ∉ b) (hbk : b ≠ keyword) (hi : ∀ g ∈ fs, g.init = true)
    (hf : getFld fs a = some f) (hv : f.val = .inst c2 fs2)
    (hdc : (sgMeta tbl cls a).hasDc = true)
    (h2 : replaceSg tbl (fuel + 1) (.inst c2 fs2) [(b, x)] = .ok r2) :
    ∃ r, replaceSg tbl (fuel + 2) (.inst cls fs) [(joinDot [a, b], x)] = .ok r ∧
      ∀ sib, sib ≠ b → getPath r [a, sib] = getPath (.inst cls fs) [a, sib] := by
  obtain ⟨r, h1, _⟩ := c18_subgroups_passthrough ha hb hbk hi hf hv hdc h2
  refine ⟨r, h1, fun sib hs => ?_⟩
  have hcur : getPath (.inst cls fs) [a] = some (.inst c2 fs2) := by
    rw [getPath_cons_inst, hf]; exact congrArg some hv
  exact c18_subgroups_siblings_kept ha hb hbk hs hcur h1

end SpVerif.C18
