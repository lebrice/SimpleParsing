/-
  C17 — how a dataclass is written does not change its command line.
  Theorems about `SpVerif.Model.Annot`.  Main result: `c17_style_invariant_partial` (options + `postprocess` arm equal in
  all six renderings on `InCliGrammar`; named gap `ListItemsNotContainers` = open finding C17-list-of-containers, witness
  `c17_list_of_containers_witness`, `FullStatement` refuted).  `c17_post_live` needs no grammar restriction.
  Inheritance: `c17_inherit_order`, `c17_inherit_last_wins` (any chain, re-declared fields included), `c17_inherit`.
-/
import SpVerif.Model.Annot
import SpVerif.Lemmas.Lit
namespace SpVerif.C17
open SpVerif SpVerif.Annot

/-! ### the command-line type grammar (decidable) -/

def isAtom : TyExpr → Bool
  | .atom _ => true
  | _ => false

def isUnionOrOpt : TyExpr → Bool
  | .union _ => true
  | .opt _ => true
  | _ => false

def allAtoms : List TyExpr → Bool
  | [] => true
  | e :: es => isAtom e && allAtoms es

mutual
/-- type expressions on which `get_parsing_fn` is representation-independent: arbitrary nesting of lists, variadic
    tuples, unions and optionals; fixed tuples have atomic items (their homogeneity test compares annotation objects);
    union members are not themselves unions/optionals and an optional is not nested in an optional (CPython would
    flatten those); `Optional[Union[…]]` has atomic members (the code re-builds the union of the non-`None` members). -/
def robust : TyExpr → Bool
  | .atom _ => true
  | .dc _ => false
  | .list e => robust e
  | .tuple es => allAtoms es
  | .vtuple e => robust e
  | .opt (.union es) => allAtoms es
  | .opt e => robust e && !isUnionOrOpt e
  | .union es => robustMembers es
termination_by structural e => e
def robustMembers : List TyExpr → Bool
  | [] => true
  | e :: es => robust e && !isUnionOrOpt e && robustMembers es
end

/-- what a list item may be on the command line: an atom or a union / optional (converted member by member).  A list
    whose items are themselves containers is not a command-line type: `List[List[int]]` hands argparse a `typing` alias
    that cannot be called, `list[list[int]]` a builtin alias that splits the token into characters — neither spelling
    yields a usable option, and they are the one place where the spelling shows (see `c17_list_of_containers_witness`). -/
def itemOk (x : TyExpr) : Bool := isAtom x || isUnionOrOpt x

/-- the named restriction of the grammar: wherever `get_argparse_type_for_container` is applied — a top-level list or
    an optional list — the item is not itself a container -/
def ListItemsNotContainers : TyExpr → Bool
  | .list x => itemOk x
  | .opt (.list x) => itemOk x
  | _ => true

/-- field types of the command-line grammar -/
def InCliGrammar : TyExpr → Bool
  | .dc _ => true
  | .opt (.dc _) => true
  | e => robust e && ListItemsNotContainers e

/-! ### representation-independent facts -/

section
variable (l : Live) (e : TyExpr) (es : List TyExpr)
theorem denote_list : denoteLive l (.list e) = mkList l (denoteLive l e) := rfl
theorem denote_tuple : denoteLive l (.tuple es) = mkTuple l (denoteLiveL l es) := rfl
theorem denote_vtuple : denoteLive l (.vtuple e) = mkTuple l [denoteLive l e, .ellipsis] := rfl
theorem denote_union : denoteLive l (.union es) = mkUnion l (denoteLiveL l es) := rfl
theorem denote_opt_union : denoteLive l (.opt (.union es)) = mkUnion l (denoteLiveL l es ++ [.cls .none]) := rfl
theorem denoteL_cons : denoteLiveL l (e :: es) = denoteLive l e :: denoteLiveL l es := rfl
end

theorem isAtom_inv {e : TyExpr} (h : isAtom e = true) : ∃ a, e = .atom a := by
  cases e with
  | atom a => exact ⟨a, rfl⟩
  | _ => cases h

theorem denoteL_atoms (l l' : Live) (es : List TyExpr) (h : allAtoms es = true) :
    denoteLiveL l es = denoteLiveL l' es := by
  induction es with
  | nil => rfl
  | cons e es ih =>
    obtain ⟨he, hes⟩ := Bool.and_eq_true_iff.mp h
    obtain ⟨a, rfl⟩ := isAtom_inv he
    exact congrArg (_ :: ·) (ih hes)

theorem denote_opt (e : TyExpr) :
    (∃ es, e = .union es) ∨ ∀ l, denoteLive l (.opt e) = mkUnion l [denoteLive l e, .cls .none] := by
  cases e with
  | union es => exact .inl ⟨es, rfl⟩
  | _ => exact .inr fun _ => rfl

theorem denote_unionish (l : Live) (x : TyExpr) (h : isUnionOrOpt x = true) : ∃ ys, denoteLive l x = mkUnion l ys := by
  cases x with
  | union es => exact ⟨_, rfl⟩
  | opt e => cases e <;> exact ⟨_, rfl⟩
  | _ => cases h

theorem robust_opt {e : TyExpr} (h : robust (.opt e) = true) :
    (∃ es, e = .union es ∧ allAtoms es = true) ∨ (robust e = true ∧ isUnionOrOpt e = false) := by
  cases e with
  | union es => exact .inl ⟨es, rfl, h⟩
  | opt e => cases (Bool.and_eq_true_iff.mp h).2
  | _ => exact .inr ⟨(Bool.and_eq_true_iff.mp h).1, rfl⟩

theorem robustMembers_cons {e : TyExpr} {es : List TyExpr} (h : robustMembers (e :: es) = true) :
    robust e = true ∧ isUnionOrOpt e = false ∧ robustMembers es = true := by
  obtain ⟨h1, hes⟩ := Bool.and_eq_true_iff.mp h
  obtain ⟨he, hu⟩ := Bool.and_eq_true_iff.mp h1
  exact ⟨he, (Bool.not_eq_true' _).mp hu, hes⟩

theorem denote_opt_single (l : Live) {e : TyExpr} (h : isUnionOrOpt e = false) :
    denoteLive l (.opt e) = mkUnion l [denoteLive l e, .cls .none] := by
  cases e with
  | union _ | opt _ => cases h
  | _ => rfl

theorem isNoneType_none : isNoneType (.cls .none) = true := rfl

/-- no rendering of a type expression is `NoneType` itself -/
theorem not_none (l : Live) (e : TyExpr) : isNoneType (denoteLive l e) = false := by
  cases e with
  | atom a => cases a <;> rfl
  | dc _ => rfl
  | opt e =>
    obtain ⟨ys, h⟩ := denote_unionish l (.opt e) rfl
    rw [h]; cases l <;> rfl
  | _ => cases l <;> rfl

theorem isUnion_denote (l : Live) (e : TyExpr) : isUnion (denoteLive l e) = isUnionOrOpt e := by
  cases e with
  | atom _ | dc _ => rfl
  | opt e =>
    obtain ⟨ys, h⟩ := denote_unionish l (.opt e) rfl
    rw [h]; cases l <;> rfl
  | _ => cases l <;> rfl

theorem any_none_denoteL (l : Live) (es : List TyExpr) : (denoteLiveL l es).any isNoneType = false := by
  induction es with
  | nil => rfl
  | cons e es ih => rw [denoteL_cons, List.any_cons, not_none l e, ih]; rfl

theorem parsingFn_mkList (l : Live) (x : Ann) : parsingFn (mkList l x) = parsingFn x := by
  cases l <;> rfl

theorem parsingFn_mkTuple (l l' : Live) (xs : List Ann) : parsingFn (mkTuple l xs) = parsingFn (mkTuple l' xs) := by
  cases l <;> cases l' <;> rfl

theorem parsingFn_vtuple (l : Live) (x : Ann) : parsingFn (mkTuple l [x, .ellipsis]) = parsingFn x := by
  cases l <;> rfl

theorem parsingFn_mkUnion (l : Live) (xs : List Ann) :
    parsingFn (mkUnion l xs) = if xs.any isNoneType then .tryFns (parsingFnOpt xs) else .tryFns (parsingFnL xs) := by
  cases l <;> rfl

theorem parsingFn_opt_single (l : Live) (w : Ann) (hn : isNoneType w = false) :
    parsingFn (mkUnion l [w, .cls .none]) = .tryFns [.optWrap (parsingFn w)] := by
  rw [parsingFn_mkUnion]
  show (if (isNoneType w || _) = true then Conv.tryFns (if isNoneType w = true then _ else _) else _) = _
  rw [hn]
  rfl

theorem parsingFnOpt_append_none (xs : List Ann) (h : xs.any isNoneType = false) :
    parsingFnOpt (xs ++ [.cls .none]) = (parsingFnL xs).map .optWrap := by
  induction xs with
  | nil => rfl
  | cons x xs ih =>
    rw [List.any_cons, Bool.or_eq_false_iff] at h
    show (if isNoneType x = true then _ else Conv.optWrap (parsingFn x) :: parsingFnOpt (xs ++ [.cls .none])) = _
    rw [h.1, ih h.2]
    rfl

mutual
/-- **`get_parsing_fn` does not depend on how the type is written** — by structural induction on the type
    expression, for nesting of any depth and tuples / unions of any width. -/
theorem parsingFn_style (l l' : Live) (e : TyExpr) (h : robust e = true) :
    parsingFn (denoteLive l e) = parsingFn (denoteLive l' e) := by
  cases e with
  | atom a => rfl
  | dc _ => cases h
  | list e =>
    rw [denote_list, denote_list, parsingFn_mkList, parsingFn_mkList]
    exact parsingFn_style l l' e h
  | tuple es =>
    rw [denote_tuple, denote_tuple, denoteL_atoms l l' es h]
    exact parsingFn_mkTuple l l' _
  | vtuple e =>
    rw [denote_vtuple, denote_vtuple, parsingFn_vtuple, parsingFn_vtuple]
    exact parsingFn_style l l' e h
  | union es =>
    simp only [denote_union, parsingFn_mkUnion, any_none_denoteL, Bool.false_eq_true, if_false,
      parsingFnL_style l l' es h]
  | opt e =>
    rcases robust_opt h with ⟨es, rfl, ha⟩ | ⟨hr, hu⟩
    · simp only [denote_opt_union, denoteL_atoms l l' es ha, parsingFn_mkUnion]
    · rw [denote_opt_single l hu, denote_opt_single l' hu, parsingFn_opt_single l _ (not_none l e),
        parsingFn_opt_single l' _ (not_none l' e), parsingFn_style l l' e hr]
theorem parsingFnL_style (l l' : Live) (es : List TyExpr) (h : robustMembers es = true) :
    parsingFnL (denoteLiveL l es) = parsingFnL (denoteLiveL l' es) := by
  cases es with
  | nil => rfl
  | cons e es =>
    obtain ⟨he, _, hes⟩ := robustMembers_cons h
    show parsingFn (denoteLive l e) :: parsingFnL (denoteLiveL l es) = parsingFn (denoteLive l' e) :: _
    rw [parsingFn_style l l' e he, parsingFnL_style l l' es hes]
end

/-! ### the options a field gets -/

theorem noDc_denote (l : Live) (e : TyExpr) (h : robust e = true) : isDataclass (denoteLive l e) = false := by
  cases e with
  | atom a => cases a <;> rfl
  | dc _ => cases h
  | opt e =>
    obtain ⟨ys, h⟩ := denote_unionish l (.opt e) rfl
    rw [h]; cases l <;> rfl
  | _ => cases l <;> rfl

theorem noDc_denoteL (l : Live) (es : List TyExpr) (h : robustMembers es = true) :
    (denoteLiveL l es).any isDataclass = false := by
  induction es with
  | nil => rfl
  | cons e es ih =>
    obtain ⟨he, _, hes⟩ := robustMembers_cons h
    rw [denoteL_cons, List.any_cons, noDc_denote l e he, ih hes]; rfl

theorem kind_list (l : Live) (x : Ann) (d : Dflt) : kind (mkList l x) d =
    if d = .isNone then ⟨.optional, false, .star, some (containerTypeFn (mkList l x)), Option.none⟩
    else ⟨.list, d != .value, .star, some (containerTypeFn (mkList l x)), Option.none⟩ := by
  cases l <;> cases d <;> rfl

theorem kind_tuple (l : Live) (xs : List Ann) (d : Dflt) : kind (mkTuple l xs) d =
    if d = .isNone then ⟨.optional, false, containerNargs (mkTuple l xs), some (parsingFn (mkTuple l xs)), Option.none⟩
    else ⟨.tuple, d != .value, containerNargs (mkTuple l xs), some (parsingFn (mkTuple l xs)), Option.none⟩ := by
  cases l <;> cases d <;> rfl

theorem kind_union_repr (xs : List Ann) (d : Dflt) : kind (.unionType xs) d = kind (.typing .union xs) d := by
  have p : parsingFn (.unionType xs) = parsingFn (.typing .union xs) := rfl
  have o : isOptional (.unionType xs) = isOptional (.typing .union xs) := rfl
  unfold kind
  rw [p, o]
  -- undecided, `kind` may still look at the annotation itself (`w`); decided, both sides compute to the same record
  cases isOptional (.typing .union xs) <;> rfl

theorem kind_mkUnion (l : Live) (xs : List Ann) (d : Dflt) : kind (mkUnion l xs) d = kind (.typing .union xs) d := by
  cases l with
  | pep604 => exact kind_union_repr xs d
  | _ => rfl

theorem kind_union_plain (xs : List Ann) (d : Dflt) (hn : xs.any isNoneType = false) (hd : xs.any isDataclass = false) :
    kind (.typing .union xs) d =
      if d = .isNone then ⟨.optional, false, .opt, some (.tryFns (parsingFnL xs)), Option.none⟩
      else ⟨.union, d != .value, .none, some (.tryFns (parsingFnL xs)), Option.none⟩ := by
  have c : containsDc (.typing .union xs) = false := hd
  have o : isOptional (.typing .union xs) = false := hn
  have p : parsingFn (.typing .union xs) = .tryFns (parsingFnL xs) := by
    rw [show parsingFn (.typing .union xs) = _ from parsingFn_mkUnion .typing xs, hn]; rfl
  -- with the parsing function folded back, each default leaves a closed computation
  rw [← p]
  unfold kind required0
  rw [c, o]
  cases d <;> rfl

theorem kind_opt_single (w : Ann) (d : Dflt) (hn : isNoneType w = false) (hu : isUnion w = false)
    (hdc : isDataclass w = false) : kind (.typing .union [w, .cls .none]) d = kind w .isNone := by
  have o : isOptional (.typing .union [w, .cls .none]) = true := by simp [isOptional, isUnion, getArgs, isNoneType_none]
  have ww : wrappedType (.typing .union [w, .cls .none]) = w := by
    simp [wrappedType, getArgs, List.filter, hn, isNoneType_none]
  have c : containsDc (.typing .union [w, .cls .none]) = false := by
    have d0 : isDataclass (.typing .union [w, .cls .none]) = false := rfl
    have d1 : isDataclass (.cls .none) = false := rfl
    simp [containsDc, isUnion, getArgs, hdc, d0, d1]
  have o' : isOptional w = false := by simp [isOptional, hu]
  have c' : containsDc w = false := by simp [containsDc, hu, hdc]
  unfold kind
  simp [c, o, ww, c', o']

theorem ctf_mkList (l l' : Live) (x : Ann) : containerTypeFn (mkList l x) = containerTypeFn (mkList l' x) := by
  cases l <;> cases l' <;> rfl

/-- a list of unions: the item conversion is `get_parsing_fn` of the union, whichever way list and union are written -/
theorem ctf_list_union (l m : Live) (ys : List Ann) :
    containerTypeFn (mkList l (mkUnion m ys)) = parsingFn (mkUnion m ys) := by
  cases l <;> cases m <;> rfl

theorem ctf_style (l l' : Live) {x : TyExpr} (hr : robust x = true) (hi : itemOk x = true) :
    containerTypeFn (mkList l (denoteLive l x)) = containerTypeFn (mkList l' (denoteLive l' x)) := by
  rcases Bool.or_eq_true_iff.mp hi with ha | hu
  · obtain ⟨a, rfl⟩ := isAtom_inv ha
    exact ctf_mkList l l' _
  · obtain ⟨ys, e1⟩ := denote_unionish l x hu
    obtain ⟨ys', e2⟩ := denote_unionish l' x hu
    have hp := parsingFn_style l l' x hr
    rw [e1, e2] at hp ⊢
    rw [ctf_list_union, ctf_list_union, hp]

theorem nargs_mkTuple (l l' : Live) (xs : List Ann) : containerNargs (mkTuple l xs) = containerNargs (mkTuple l' xs) := by
  cases l <;> cases l' <;> rfl

theorem nargs_vtuple (l : Live) (x : Ann) : containerNargs (mkTuple l [x, .ellipsis]) = .star := by
  cases l <;> rfl

theorem linc_of_opt {e : TyExpr} (h : ListItemsNotContainers (.opt e) = true) (hu : isUnionOrOpt e = false) :
    ListItemsNotContainers e = true := by
  cases e with
  | union _ | opt _ => cases hu
  | _ => exact h

theorem kind_style (l l' : Live) (e : TyExpr) (d : Dflt) (hr : robust e = true)
    (hi : ListItemsNotContainers e = true) : kind (denoteLive l e) d = kind (denoteLive l' e) d := by
  cases e with
  | atom _ => rfl
  | dc _ => cases hr
  | list x => simp only [denote_list, kind_list, ctf_style l l' (x := x) hr hi]
  | tuple es =>
    simp only [denote_tuple, denoteL_atoms l l' es hr, kind_tuple, nargs_mkTuple l l', parsingFn_mkTuple l l']
  | vtuple x => simp only [denote_vtuple, kind_tuple, nargs_vtuple, parsingFn_vtuple, parsingFn_style l l' x hr]
  | union es =>
    simp only [denote_union, kind_mkUnion, kind_union_plain _ d (any_none_denoteL l es) (noDc_denoteL l es hr),
      kind_union_plain _ d (any_none_denoteL l' es) (noDc_denoteL l' es hr), parsingFnL_style l l' es hr]
  | opt e =>
    rcases robust_opt hr with ⟨es, rfl, ha⟩ | ⟨hr', hu⟩
    · simp only [denote_opt_union, denoteL_atoms l l' es ha, kind_mkUnion]
    · rw [denote_opt_single l hu, denote_opt_single l' hu, kind_mkUnion, kind_mkUnion,
        kind_opt_single _ d (not_none l e) (by rw [isUnion_denote, hu]) (noDc_denote l e hr'),
        kind_opt_single _ d (not_none l' e) (by rw [isUnion_denote, hu]) (noDc_denote l' e hr')]
      exact kind_style l l' e .isNone hr' (linc_of_opt hi hu)

/-- **Live renderings.** For every field type of the command-line grammar the options a field gets do not depend on
    whether the annotation is written with `typing` generics, builtin generics or PEP 604 unions. -/
theorem c17_live_invariant (l l' : Live) (d : Dflt) (e : TyExpr) (h : InCliGrammar e = true) :
    kind (denoteLive l e) d = kind (denoteLive l' e) d := by
  unfold InCliGrammar at h
  split at h
  · rfl
  · exact (kind_mkUnion l _ d).trans (kind_mkUnion l' _ d).symm
  · rw [Bool.and_eq_true] at h
    exact kind_style l l' e d h.1 h.2

/-! ### postponed annotations -/

/-- the assumption on CPython's evaluator, for one field: the text of the annotation evaluates to the object the same
    text yields when it is not postponed -/
def EvalOk (ev : Str → EvOut) : Style → TyExpr → Prop
  | .live _, _ => True
  | .postponed l, e => ev (render l e) = .ok (denoteLive l e)

/-- what a field ends up with: its options, or nothing when resolution raised -/
def kindOf : ROut → Dflt → Option FieldKind
  | .ok a, d => some (kind a d)
  | .raise _, _ => Option.none

/-- a live annotation object is used as it is — so resolution is idempotent and the in-place update of `Field.type`
    (dataclass_wrapper.py:90) cannot change a later parser built from the same class -/
theorem resolve_live (ev : Str → EvOut) (l : Live) (e : TyExpr) : resolve ev (denoteLive l e) = .ok (denoteLive l e) := by
  cases e with
  | atom _ | dc _ => rfl
  | opt e =>
    obtain ⟨ys, h⟩ := denote_unionish l (.opt e) rfl
    rw [h]; cases l <;> rfl
  | _ => cases l <;> rfl

theorem resolve_str_plain (ev : Str → EvOut) {t : Str} {a : Ann} (h : ev t = .ok a) (hu : ∀ xs, a ≠ .unionType xs) :
    resolve ev (.strAnn t) = .ok a := by
  cases a with
  | unionType xs => exact absurd rfl (hu xs)
  | _ => simp only [resolve, h]

theorem resolve_str_union (ev : Str → EvOut) {t : Str} {xs : List Ann} {b : Ann} (h : ev t = .ok (.unionType xs))
    (r : replaceUnion (.unionType xs) = .ok b) : resolve ev (.strAnn t) = .ok b := by
  simp only [resolve, h, r]

theorem denote_unionType {l : Live} {e : TyExpr} {xs : List Ann} (h : denoteLive l e = .unionType xs) :
    l = .pep604 ∧ isUnionOrOpt e = true := by
  have hu : isUnionOrOpt e = true := by rw [← isUnion_denote l e, h]; rfl
  obtain ⟨ys, e1⟩ := denote_unionish l e hu
  rw [e1] at h
  cases l with
  | pep604 => exact ⟨rfl, hu⟩
  | _ => cases h

/-! #### `_replace_UnionType_with_typing_Union` turns the PEP 604 object into the builtin-style object -/

def isTypingUnion : Ann → Bool
  | .typing .union _ => true
  | _ => false

/-- pairwise different under Python `==` -/
def distinctL : List Ann → Bool
  | [] => true
  | x :: r => r.all (fun y => !annEq x y) && distinctL r

mutual
/-- CPython's own normal form of a type expression: a union has at least two members and they are pairwise different
    (`Union[int]` *is* `int`, `int | int` *is* `int`) — a condition on the expression, not on the code -/
def normal : TyExpr → Bool
  | .atom _ => true
  | .dc _ => true
  | .list e => normal e
  | .tuple es => normalL es && !es.isEmpty        -- `Tuple[]` is not an expression CPython accepts
  | .vtuple e => normal e
  | .opt (.union es) => normalL es && distinctL (denoteLiveL .builtin es) && decide (2 ≤ es.length)
  | .opt e => normal e
  | .union es => normalL es && distinctL (denoteLiveL .builtin es) && decide (2 ≤ es.length)
termination_by structural e => e
def normalL : List TyExpr → Bool
  | [] => true
  | e :: es => normal e && normalL es
end

theorem flatten_id (xs : List Ann) (h : xs.all (fun a => !isTypingUnion a) = true) : flattenUnion xs = xs := by
  induction xs with
  | nil => rfl
  | cons x xs ih =>
    rw [List.all_cons, Bool.and_eq_true] at h
    cases x with
    | typing o ys =>
      cases o with
      | union => cases h.1
      | _ => exact congrArg (_ :: ·) (ih h.2)
    | _ => exact congrArg (_ :: ·) (ih h.2)

theorem dedup_id (xs : List Ann) (h : distinctL xs = true) : dedupAnn xs = xs := by
  induction xs with
  | nil => rfl
  | cons x r ih =>
    obtain ⟨hx, hr⟩ := Bool.and_eq_true_iff.mp h
    show x :: (dedupAnn r).filter _ = _
    rw [ih hr, List.filter_eq_self.mpr (List.all_eq_true.mp hx)]

theorem mkTU_id (xs : List Ann) (hf : xs.all (fun a => !isTypingUnion a) = true) (hd : distinctL xs = true)
    (hl : 2 ≤ xs.length) : mkTypingUnion xs = .typing .union xs := by
  unfold mkTypingUnion
  rw [flatten_id xs hf, dedup_id xs hd]
  match xs, hl with
  | _ :: _ :: _, _ => rfl

theorem distinct_snoc (xs : List Ann) (z : Ann) (h : distinctL xs = true) (hz : ∀ y ∈ xs, annEq y z = false) :
    distinctL (xs ++ [z]) = true := by
  induction xs with
  | nil => rfl
  | cons x r ih =>
    obtain ⟨hx, hr⟩ := Bool.and_eq_true_iff.mp h
    show ((r ++ [z]).all _ && distinctL (r ++ [z])) = true
    rw [ih hr fun y hy => hz y (List.mem_cons_of_mem x hy), List.all_append, hx, List.all_cons,
      hz x List.mem_cons_self]
    rfl

theorem annEq_cls_none (a : Ann) : annEq a (.cls .none) = isNoneType a := by
  cases a with
  | cls c => cases c <;> rfl
  | typing o _ => cases o <;> rfl
  | _ => rfl

theorem annEq_none (l : Live) (e : TyExpr) : annEq (denoteLive l e) (.cls .none) = false := by
  rw [annEq_cls_none, not_none]

theorem notTU (e : TyExpr) (h : isUnionOrOpt e = false) : isTypingUnion (denoteLive .builtin e) = false := by
  cases e with
  | union _ | opt _ => cases h
  | _ => rfl

theorem notTU_members (es : List TyExpr) (h : robustMembers es = true) :
    (denoteLiveL .builtin es).all (fun a => !isTypingUnion a) = true := by
  induction es with
  | nil => rfl
  | cons e es ih =>
    obtain ⟨_, hu, hes⟩ := robustMembers_cons h
    rw [denoteL_cons, List.all_cons, notTU e hu, ih hes]
    rfl

theorem robustMembers_atoms (es : List TyExpr) (h : allAtoms es = true) : robustMembers es = true := by
  induction es with
  | nil => rfl
  | cons e es ih =>
    obtain ⟨he, hes⟩ := Bool.and_eq_true_iff.mp h
    obtain ⟨a, rfl⟩ := isAtom_inv he
    exact ih hes

theorem replaceL_cons {x y : Ann} {xs ys : List Ann} (hx : replaceUnion x = .ok y) (hxs : replaceUnionL xs = .ok ys) :
    replaceUnionL (x :: xs) = .ok (y :: ys) := by
  show (do let y ← replaceUnion x; let ys ← replaceUnionL xs; pure (y :: ys)) = _
  rw [hx, hxs]; rfl

theorem replace_list (l : Live) {x y : Ann} (h : replaceUnion x = .ok y) :
    replaceUnion (mkList l x) = .ok (mkList .builtin y) := by
  have hl : replaceUnionL [x] = .ok [y] := replaceL_cons h rfl
  cases l <;> (show (replaceUnionL [x] >>= _) = _; rw [hl]; rfl)

theorem replace_tuple (l : Live) {xs ys : List Ann} (h : replaceUnionL xs = .ok ys) :
    replaceUnion (mkTuple l xs) = .ok (mkTuple .builtin ys) := by
  cases l <;> (show (replaceUnionL xs >>= _) = _; rw [h]; rfl)

theorem replace_union {xs ys : List Ann} (h : replaceUnionL xs = .ok ys)
    (hf : ys.all (fun a => !isTypingUnion a) = true) (hd : distinctL ys = true) (hl : 2 ≤ ys.length) :
    replaceUnion (.unionType xs) = .ok (.typing .union ys) := by
  show (replaceUnionL xs >>= fun l => pure (mkTypingUnion l)) = _
  rw [h, ← mkTU_id ys hf hd hl]; rfl

theorem replaceL_atoms_none (l : Live) (es : List TyExpr) (h : allAtoms es = true) :
    replaceUnionL (denoteLiveL l es ++ [.cls .none]) = .ok (denoteLiveL l es ++ [.cls .none]) := by
  induction es with
  | nil => rfl
  | cons e es ih =>
    obtain ⟨he, hes⟩ := Bool.and_eq_true_iff.mp h
    obtain ⟨a, rfl⟩ := isAtom_inv he
    exact replaceL_cons rfl (ih hes)

theorem denoteLiveL_length (l : Live) (es : List TyExpr) : (denoteLiveL l es).length = es.length := by
  induction es with
  | nil => rfl
  | cons e es ih => rw [denoteL_cons, List.length_cons, ih, List.length_cons]

theorem normal_opt_single {e : TyExpr} (hu : isUnionOrOpt e = false) : normal (.opt e) = normal e := by
  cases e with
  | union _ | opt _ => cases hu
  | _ => rfl

/-- `X | None` over a non-union `X` -/
theorem replace_opt_single (e : TyExpr) (hu : isUnionOrOpt e = false)
    (ih : replaceUnion (denoteLive .pep604 e) = .ok (denoteLive .builtin e)) :
    replaceUnion (denoteLive .pep604 (.opt e)) = .ok (denoteLive .builtin (.opt e)) := by
  rw [denote_opt_single _ hu, denote_opt_single _ hu]
  refine replace_union (replaceL_cons ih (replaceL_cons rfl rfl)) ?_ ?_ (Nat.le_refl 2)
  · rw [List.all_cons, notTU e hu]; rfl
  · show ([Ann.cls Cls.none].all _ && _) = true
    rw [List.all_cons, annEq_none .builtin e]; rfl

theorem normal_union {es : List TyExpr} (n : normal (.union es) = true) :
    normalL es = true ∧ distinctL (denoteLiveL .builtin es) = true ∧ 2 ≤ es.length := by
  obtain ⟨h, hl⟩ := Bool.and_eq_true_iff.mp n
  obtain ⟨hn, hd⟩ := Bool.and_eq_true_iff.mp h
  exact ⟨hn, hd, of_decide_eq_true hl⟩

mutual
/-- **The recursive replacement produces exactly the builtin-style object**, for nesting of any depth -/
theorem replace_denote : ∀ e : TyExpr, robust e = true → normal e = true →
    replaceUnion (denoteLive .pep604 e) = .ok (denoteLive .builtin e) := by
  intro e h n
  cases e with
  | atom a => rfl
  | dc _ => cases h
  | list e => exact replace_list .pep604 (replace_denote e h n)
  | tuple es =>
    exact replace_tuple .pep604 (replaceL_denote es (robustMembers_atoms es h) (Bool.and_eq_true_iff.mp n).1)
  | vtuple e => exact replace_tuple .pep604 (replaceL_cons (replace_denote e h n) (replaceL_cons rfl rfl))
  | union es =>
    obtain ⟨nes, hd, hl⟩ := normal_union n
    exact replace_union (replaceL_denote es h nes) (notTU_members es h) hd (by rw [denoteLiveL_length]; exact hl)
  | opt e =>
    rcases robust_opt h with ⟨es, rfl, ha⟩ | ⟨hr, hu⟩
    · obtain ⟨_, hd, hl⟩ := normal_union n
      rw [denote_opt_union, denote_opt_union, denoteL_atoms .pep604 .builtin es ha]
      refine replace_union (replaceL_atoms_none .builtin es ha) ?_ ?_ ?_
      · rw [List.all_append, notTU_members es (robustMembers_atoms es ha)]; rfl
      · refine distinct_snoc _ _ hd fun y hy => ?_
        rw [annEq_cls_none]
        exact Bool.eq_false_iff.mpr (List.any_eq_false.mp (any_none_denoteL _ es) y hy)
      · rw [List.length_append, denoteLiveL_length]; exact Nat.le_succ_of_le hl
    · rw [normal_opt_single hu] at n
      exact replace_opt_single e hu (replace_denote e hr n)
theorem replaceL_denote : ∀ es : List TyExpr, robustMembers es = true → normalL es = true →
    replaceUnionL (denoteLiveL .pep604 es) = .ok (denoteLiveL .builtin es) := by
  intro es h n
  cases es with
  | nil => rfl
  | cons e es =>
    obtain ⟨he, _, hes⟩ := robustMembers_cons h
    obtain ⟨ne, nes⟩ := Bool.and_eq_true_iff.mp n
    exact replaceL_cons (replace_denote e he ne) (replaceL_denote es hes nes)
end

/-! ### the property -/

/-- postponed text resolves to a live rendering of the same expression: to the builtin-style object (by the recursive
    replacement) when its value is a top-level `X | Y`, and unchanged when it is not -/
theorem resolve_postponed (ev : Str → EvOut) (l : Live) (e : TyExpr) (hg : InCliGrammar e = true)
    (hn : normal e = true) (hev : ev (render l e) = .ok (denoteLive l e)) :
    ∃ l', resolve ev (denote (.postponed l) e) = .ok (denoteLive l' e) := by
  by_cases hu : l = .pep604 ∧ isUnionOrOpt e = true
  · obtain ⟨rfl, hu⟩ := hu
    have r : replaceUnion (denoteLive .pep604 e) = .ok (denoteLive .builtin e) := by
      unfold InCliGrammar at hg
      split at hg
      · cases hu
      · rfl
      · exact replace_denote e (Bool.and_eq_true_iff.mp hg).1 hn
    obtain ⟨ys, e1⟩ := denote_unionish .pep604 e hu
    rw [e1] at hev r
    exact ⟨.builtin, resolve_str_union ev hev r⟩
  · exact ⟨l, resolve_str_plain ev hev fun xs hx => hu (denote_unionType hx)⟩

theorem resolve_any (ev : Str → EvOut) (s : Style) (e : TyExpr) (hg : InCliGrammar e = true) (hn : normal e = true)
    (hev : EvalOk ev s e) : ∃ l, resolve ev (denote s e) = .ok (denoteLive l e) := by
  match s, hev with
  | .live l, _ => exact ⟨l, resolve_live ev l e⟩
  | .postponed l, hev => exact resolve_postponed ev l e hg hn hev

/-! #### `postprocess`: the second look at the annotation -/

theorem isTuple_denote (l : Live) (e : TyExpr) : isTuple (denoteLive l e) = isTuple (denoteLive .typing e) := by
  cases e with
  | atom _ | dc _ => rfl
  | opt e =>
    obtain ⟨ys, h⟩ := denote_unionish l (.opt e) rfl
    obtain ⟨ys', h'⟩ := denote_unionish .typing (.opt e) rfl
    rw [h, h']; cases l <;> rfl
  | _ => cases l <;> rfl

theorem postBranch_mkList (l : Live) (x : Ann) : postBranch (mkList l x) = .toList := by cases l <;> rfl

theorem postBranch_mkTuple (l : Live) (xs : List Ann) : postBranch (mkTuple l xs) = .toTuple := by cases l <;> rfl

theorem postBranch_union (l : Live) (ys : List Ann) :
    postBranch (mkUnion l ys) =
      if ys.any isNoneType then
        (match ys with
         | item :: _ => if isTuple item then .optTuple else .same
         | [] => .same)
      else .callFails := by
  cases l <;> rfl

/-- **`postprocess` takes the same arm in every live rendering — for every type expression, no grammar restriction.** -/
theorem c17_post_live (l l' : Live) : ∀ e : TyExpr, postBranch (denoteLive l e) = postBranch (denoteLive l' e) := by
  intro e
  cases e with
  | atom _ | dc _ => rfl
  | list _ => simp only [denote_list, postBranch_mkList]
  | tuple _ | vtuple _ => simp only [denote_tuple, denote_vtuple, postBranch_mkTuple]
  | union es => simp only [denote_union, postBranch_union, any_none_denoteL, Bool.false_eq_true, if_false]
  | opt e =>
    rcases denote_opt e with ⟨es, rfl⟩ | h
    · cases es with
      | nil => exact (postBranch_union l _).trans (postBranch_union l' _).symm
      | cons e es =>
        simp only [denote_opt_union, denoteL_cons, List.cons_append, postBranch_union, List.any_cons, List.any_append,
          isNoneType_none, Bool.or_true, Bool.true_or, ↓reduceIte, isTuple_denote l e, isTuple_denote l' e]
    · simp only [h, postBranch_union, List.any_cons, isNoneType_none, Bool.or_true, Bool.true_or, ↓reduceIte,
        isTuple_denote l e, isTuple_denote l' e]

/-- everything simple_parsing derives from a field's annotation: the `add_argument` options and the `postprocess` arm;
    nothing when resolution raised -/
def optionsOf : ROut → Dflt → Option (FieldKind × PostK)
  | .ok a, d => some (kind a d, postBranch a)
  | .raise _, _ => Option.none

/-- **The full statement** (kept visible; refuted by `c17_list_of_containers_witness`): however a field type in CPython's
    normal form is written, the field gets the same options and the same post-processing. -/
def FullStatement : Prop :=
  ∀ (ev : Str → EvOut) (e : TyExpr) (s₁ s₂ : Style) (d : Dflt), normal e = true → EvalOk ev s₁ e → EvalOk ev s₂ e →
    optionsOf (resolve ev (denote s₁ e)) d = optionsOf (resolve ev (denote s₂ e)) d

/-- **Style invariance (partial — named gap `ListItemsNotContainers`, finding C17-list-of-containers).**  For every field
    type of `InCliGrammar` in CPython's normal form, every pair of renderings — `typing` generics, builtin generics,
    PEP 604 unions, postponed text of any of these — gives the field the same argparse options (same branch of
    `get_arg_options`, same `required`, `nargs`, `type=` callable) and the same `postprocess` arm, under the assumption
    that CPython evaluates the postponed text to the object it denotes.  No rendering is excluded.  (`InCliGrammar`
    further restricts, for the proof only, fixed-tuple items and `Optional[Union[…]]` members to atoms:
    `TupleItemsAtomic`, `OptionalUnionMembersAtomic` below name these; the differential check covers them.) -/
theorem c17_style_invariant_partial (ev : Str → EvOut) (e : TyExpr) (s₁ s₂ : Style) (d : Dflt)
    (hg : InCliGrammar e = true) (hn : normal e = true) (h₁ : EvalOk ev s₁ e) (h₂ : EvalOk ev s₂ e) :
    optionsOf (resolve ev (denote s₁ e)) d = optionsOf (resolve ev (denote s₂ e)) d := by
  obtain ⟨l₁, r₁⟩ := resolve_any ev s₁ e hg hn h₁
  obtain ⟨l₂, r₂⟩ := resolve_any ev s₂ e hg hn h₂
  rw [r₁, r₂]
  simp only [optionsOf]
  rw [c17_live_invariant l₁ l₂ d e hg, c17_post_live l₁ l₂ e]

theorem c17_style_invariant_kind (ev : Str → EvOut) (e : TyExpr) (s₁ s₂ : Style) (d : Dflt)
    (hg : InCliGrammar e = true) (hn : normal e = true) (h₁ : EvalOk ev s₁ e) (h₂ : EvalOk ev s₂ e) :
    kindOf (resolve ev (denote s₁ e)) d = kindOf (resolve ev (denote s₂ e)) d := by
  have fst : ∀ r, kindOf r d = (optionsOf r d).map (·.1) := fun r => by cases r <;> rfl
  rw [fst, fst, c17_style_invariant_partial ev e s₁ s₂ d hg hn h₁ h₂]

/-- **Resolution is idempotent** on the grammar: what a postponed annotation resolves to is a live object, and resolving
    that again (a second parser built from the same class, whose `Field.type` was updated in place) changes nothing -/
theorem c17_resolve_idem (ev : Str → EvOut) (s : Style) (e : TyExpr) (hg : InCliGrammar e = true)
    (hn : normal e = true) (hev : EvalOk ev s e) :
    ∃ b, resolve ev (denote s e) = .ok b ∧ resolve ev b = .ok b := by
  obtain ⟨l, r⟩ := resolve_any ev s e hg hn hev
  exact ⟨_, r, resolve_live ev l e⟩

/-- the proof-only restrictions inside `InCliGrammar`, by name (decidable) -/
def TupleItemsAtomic : TyExpr → Bool
  | .tuple es => allAtoms es
  | .opt (.tuple es) => allAtoms es
  | _ => true
def OptionalUnionMembersAtomic : TyExpr → Bool
  | .opt (.union es) => allAtoms es
  | _ => true

/-! non-vacuity: a deep type of the grammar; the evaluator assumption is satisfiable for every style -/
def exTy : TyExpr :=
  .union [.atom .int, .list (.vtuple (.union [.atom .str, .list (.atom (.enum "Color".toList))])), .tuple [.atom .bool, .atom .path]]
attribute [lit] exTy
def exEv (e : TyExpr) : Str → EvOut := fun t =>
  if t = render .pep604 e then .ok (denoteLive .pep604 e)
  else if t = render .typing e then .ok (denoteLive .typing e)
  else if t = render .builtin e then .ok (denoteLive .builtin e) else .otherError
example : InCliGrammar exTy = true ∧ normal exTy = true := by decide_lit
example : EvalOk (exEv exTy) (.postponed .pep604) exTy := by simp [EvalOk, exEv]
example : InCliGrammar (.opt (.list (.union [.atom .int, .atom .str]))) = true ∧
    normal (.opt (.list (.union [.atom .int, .atom .str]))) = true := by decide +kernel
example : InCliGrammar (.opt (.dc "Child".toList)) = true ∧ normal (.opt (.dc "Child".toList)) = true := by decide_lit
example : (kind (denoteLive .pep604 (.opt (.dc "Child".toList))) .isNone).branch = .nested := by decide_lit

/-! ### regression examples for the two repaired defects -/

def d18Ty : TyExpr := .list (.union [.atom .int, .atom .str])

/-- (repaired, b180b4e) `list[int | str]` used to hand argparse the un-callable `types.UnionType`; all spellings now
    get the try-in-order parser of the union -/
example : InCliGrammar d18Ty = true ∧ normal d18Ty = true := by decide +kernel
example : notCallable (kind (denoteLive .typing d18Ty) .value).conv = false ∧
    notCallable (kind (denoteLive .pep604 d18Ty) .value).conv = false := by decide +kernel
example : (match resolve (exEv d18Ty) (denote (.postponed .pep604) d18Ty) with
     | .ok a => notCallable (kind a .value).conv
     | .raise _ => true) = false := by decide +kernel

def vtTy : TyExpr := .opt (.vtuple (.atom .int))

/-- (repaired, 8cc8cdd) postponed `tuple[int, ...] | None` used to raise `NotImplementedError` on the `...` -/
example : InCliGrammar vtTy = true ∧ normal vtTy = true := by decide +kernel
example : (match resolve (exEv vtTy) (denote (.postponed .pep604) vtTy) with
     | .ok _ => true
     | .raise _ => false) = true := by decide +kernel

/-! ### witness: the open finding C17-list-of-containers -/

def locTy : TyExpr := .list (.list (.atom .int))

/-- **List of containers.** `List[List[int]]` hands argparse the `typing` alias itself (calling it raises `TypeError`:
    every use of the option exits 2), `list[list[int]]` the builtin alias (`list(token)`: the token is split into
    characters) — `get_argparse_type_for_container` returns the item annotation as the callable. -/
theorem c17_list_of_containers_witness :
    normal locTy = true ∧ InCliGrammar locTy = false ∧
    (match (kind (denoteLive .typing locTy) .value).conv, (kind (denoteLive .builtin locTy) .value).conv with
     | some (.typingAlias .list), some (.builtinAlias .list) => true
     | _, _ => false) = true := by
  decide +kernel

theorem c17_full_statement_fails : ¬ FullStatement := fun h => by
  have h2 := congrArg (Option.map fun k => match k.1.conv with | some (.typingAlias _) => true | _ => false)
    (h (exEv locTy) locTy (.live .typing) (.live .builtin) .value (by decide +kernel) trivial trivial)
  revert h2
  decide +kernel

/-! ### inherited fields -/

def keys {β : Type} (l : List (Str × β)) : List Str := l.map (·.1)

theorem dictSet_cons {β : Type} (p : Str × β) (r : List (Str × β)) (k : Str) (v : β) :
    dictSet (p :: r) k v = if p.1 = k then (p.1, v) :: r else p :: dictSet r k v := rfl

theorem dictSet_new {β : Type} (acc : List (Str × β)) (k : Str) (v : β) (h : k ∉ keys acc) :
    dictSet acc k v = acc ++ [(k, v)] := by
  induction acc with
  | nil => rfl
  | cons p r ih =>
    rw [keys, List.map_cons, List.mem_cons, not_or] at h
    rw [dictSet_cons, if_neg (Ne.symm h.1), ih h.2, List.cons_append]

theorem addOwn_fresh {β : Type} (own acc : List (Str × β)) (h : (keys (acc ++ own)).Nodup) :
    addOwn acc own = acc ++ own := by
  induction own generalizing acc with
  | nil => exact (List.append_nil acc).symm
  | cons p r ih =>
    have hk : p.1 ∉ keys acc := fun hm => by
      rw [keys, List.map_append] at h
      exact (List.nodup_append.mp h).2.2 p.1 hm p.1 List.mem_cons_self rfl
    rw [List.append_cons] at h
    show addOwn (dictSet acc p.1 p.2) r = _
    rw [dictSet_new acc p.1 p.2 hk, ih _ h, ← List.append_cons]

theorem addOwn_append {β : Type} (a b acc : List (Str × β)) : addOwn acc (a ++ b) = addOwn (addOwn acc a) b := by
  induction a generalizing acc with
  | nil => rfl
  | cons p r ih => exact ih (dictSet acc p.1 p.2)

theorem foldl_addOwn {β : Type} (chain : List (List (Str × β))) (acc : List (Str × β)) :
    chain.foldl addOwn acc = addOwn acc chain.flatten := by
  induction chain generalizing acc with
  | nil => rfl
  | cons own rest ih => rw [List.foldl_cons, ih, List.flatten_cons, addOwn_append]

theorem dcFields_flatten {β : Type} (chain : List (List (Str × β))) : dcFields chain = addOwn [] chain.flatten :=
  foldl_addOwn chain []

theorem dcFields_nodup {β : Type} (chain : List (List (Str × β))) (h : (keys chain.flatten).Nodup) :
    dcFields chain = chain.flatten := by
  rw [dcFields_flatten, addOwn_fresh _ [] h]; rfl

/-- **Inherited fields.** A class whose (distinct) fields are declared along a linear inheritance chain of any length,
    in any contiguous split, has exactly the field list of the class that declares them all itself.  (Both are the
    declarations in order; without distinctness the two sides are still equal, by `dcFields_flatten`.) -/
theorem c17_inherit {β : Type} (chain : List (List (Str × β))) (h : (keys chain.flatten).Nodup) :
    dcFields chain = dcFields [chain.flatten] := by
  rw [dcFields_nodup chain h, dcFields_nodup [chain.flatten] (by rwa [List.flatten_singleton]), List.flatten_singleton]

example : dcFields [[("a".toList, 1), ("b".toList, 2)], [("c".toList, 3)], [("b".toList, 9)]]
    = [("a".toList, 1), ("b".toList, 9), ("c".toList, 3)] := by decide_lit

example : (keys [[("f0".toList, 0), ("f1".toList, 1)], [], [("f2".toList, 2)]].flatten).Nodup := by decide_lit

/-! #### arbitrary chains, re-declared fields included: first-declaration order, last definition wins -/

/-- names in first-occurrence order -/
def firstOcc (acc : List Str) : List Str → List Str
  | [] => acc
  | k :: r => firstOcc (if k ∈ acc then acc else acc ++ [k]) r

theorem keys_dictSet_mem {β : Type} (acc : List (Str × β)) (k : Str) (v : β) (h : k ∈ keys acc) :
    keys (dictSet acc k v) = keys acc := by
  induction acc with
  | nil => cases h
  | cons p r ih =>
    rw [dictSet_cons]
    by_cases he : p.1 = k
    · rw [if_pos he]; rfl
    · rw [if_neg he]
      exact congrArg (p.1 :: ·) (ih ((List.mem_cons.mp h).resolve_left (Ne.symm he)))

theorem keys_dictSet {β : Type} (acc : List (Str × β)) (k : Str) (v : β) :
    keys (dictSet acc k v) = if k ∈ keys acc then keys acc else keys acc ++ [k] := by
  by_cases h : k ∈ keys acc
  · rw [if_pos h, keys_dictSet_mem acc k v h]
  · rw [if_neg h, dictSet_new acc k v h, keys, List.map_append]; rfl

theorem keys_addOwn {β : Type} (own acc : List (Str × β)) : keys (addOwn acc own) = firstOcc (keys acc) (keys own) := by
  induction own generalizing acc with
  | nil => rfl
  | cons p r ih =>
    show keys (addOwn (dictSet acc p.1 p.2) r) = firstOcc (keys acc) (p.1 :: keys r)
    rw [ih, keys_dictSet]
    rfl

theorem firstOcc_append (acc a b : List Str) : firstOcc acc (a ++ b) = firstOcc (firstOcc acc a) b := by
  induction a generalizing acc with
  | nil => rfl
  | cons k r ih => exact ih _

/-- **Field order of any chain**: every declared name once, in the order of its *first* declaration along the chain -/
theorem c17_inherit_order {β : Type} (chain : List (List (Str × β))) :
    keys (dcFields chain) = firstOcc [] (keys chain.flatten) := by
  rw [dcFields_flatten, keys_addOwn]; rfl

/-- `d.get(k)` -/
def dget {β : Type} : List (Str × β) → Str → Option β
  | [], _ => Option.none
  | (k', v) :: r, k => if k' = k then some v else dget r k

/-- the last definition of `k` in a declaration sequence (`o` when there is none) -/
def lastDef {β : Type} (o : Option β) (decls : List (Str × β)) (k : Str) : Option β :=
  decls.foldl (fun o p => if p.1 = k then some p.2 else o) o

theorem dget_cons {β : Type} (p : Str × β) (r : List (Str × β)) (k : Str) :
    dget (p :: r) k = if p.1 = k then some p.2 else dget r k := rfl

theorem dget_dictSet {β : Type} (acc : List (Str × β)) (k k' : Str) (v : β) :
    dget (dictSet acc k v) k' = if k = k' then some v else dget acc k' := by
  induction acc with
  | nil => rfl
  | cons p r ih =>
    rw [dictSet_cons, dget_cons]
    by_cases h : p.1 = k
    · rw [if_pos h, dget_cons, h]
      by_cases h1 : k = k'
      · rw [if_pos h1, if_pos h1]
      · rw [if_neg h1, if_neg h1, if_neg h1]
    · rw [if_neg h, dget_cons, ih]
      by_cases h1 : p.1 = k'
      · rw [if_pos h1, if_pos h1, if_neg (h1 ▸ Ne.symm h)]
      · rw [if_neg h1, if_neg h1]

theorem dget_addOwn {β : Type} (own acc : List (Str × β)) (k : Str) :
    dget (addOwn acc own) k = lastDef (dget acc k) own k := by
  induction own generalizing acc with
  | nil => rfl
  | cons p r ih =>
    show dget (addOwn (dictSet acc p.1 p.2) r) k = lastDef (dget acc k) (p :: r) k
    rw [ih, dget_dictSet]
    rfl

/-- **Field definition of any chain**: the *last* declaration of a name along the chain is the one in force -/
theorem c17_inherit_last_wins {β : Type} (chain : List (List (Str × β))) (k : Str) :
    dget (dcFields chain) k = lastDef Option.none chain.flatten k := by
  rw [dcFields_flatten, dget_addOwn]; rfl

/-- so two chains that declare the same names in the same first-declaration order with the same final definitions give
    the same class — in particular a chain that re-declares fields and the flat class that declares each once -/
example : dcFields [[("a".toList, 1), ("b".toList, 2)], [("c".toList, 3), ("a".toList, 7)]]
    = dcFields [[("a".toList, 7), ("b".toList, 2), ("c".toList, 3)]] := by decide_lit

/-! ### the textual `A | B` rewriter -/

/-- text without `|` is returned unchanged -/
theorem c17_rewrite_no_bar (text : Str) (h : text.contains '|' = false) : rewrite text = .ok text := by
  show (if !text.contains '|' then RwOut.ok text else _) = _
  rw [h]; rfl

/-- a bracket-free union `a | b | …` becomes `Union[a, b, …]` with the members stripped -/
theorem c17_rewrite_flat (text : Str) (h : text.contains '|' = true) (h1 : (stripWs text).contains '[' = false)
    (h2 : (stripWs text).contains ']' = false) :
    rewrite text = .ok ("Union[".toList ++ joinCommaSp ((splitOnChar '|' (stripWs text)).map stripWs) ++ [']']) := by
  show (if !text.contains '|' then _ else
    if !(stripWs text).contains '[' then (if (stripWs text).contains ']' then _ else _) else _) = _
  rw [h, h1, h2]; rfl

example : rewrite " int | None".toList = .ok "Union[int, None]".toList := by decide_lit
example : rewrite "tuple[int | None, str | float]".toList = .ok "tuple[Union[int, None], Union[str, float]]".toList := by
  decide_lit

/-- connection with the renderings: the PEP 604 text of an optional builtin atom is rewritten to the `typing` spelling
    (on 3.12 this path is reached only through the `TypeError` arm of `resolve`, e.g. `"int" | None`) -/
theorem c17_rewrite_optional_atom (a : Atom) (h : ∀ n, a ≠ .enum n) :
    rewrite (render .pep604 (.opt (.atom a))) = .ok ("Union[".toList ++ atomText a ++ ", None]".toList) := by
  show rewrite (atomText a ++ " | None".toList) = _
  unfold atomText
  cases a with
  | enum n => exact absurd rfl (h n)
  | _ => decide_lit

example : rewrite (render .pep604 (.union [.atom .int, .atom (.enum "Color".toList), .atom .path]))
    = .ok "Union[int, Color, Path]".toList := by decide_lit

/-- the rewriter's documented gap (`# BUG: Need to handle things like bob[int] | None`): an assertion error -/
theorem c17_rewrite_gap_witness : rewrite "list[int] | None".toList = .assertion := by decide_lit

/-- a union whose first member is plain and a later one subscripted is refused -/
theorem c17_rewrite_not_supported_witness : rewrite "int | list[int]".toList = .notSupported := by decide_lit

end SpVerif.C17
