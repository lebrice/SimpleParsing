/-
  C11 — ALWAYS_MERGE distributes one shared option over all merged destinations.
  Theorems about `SpVerif.Model.Merge` (mirrors conflicts.py:317-354, dataclass_wrapper.py:422-445,
  field_wrapper.py:168-229, 354-458, 711-821, utils.py:617-723).  Every statement holds for all
  `n ≥ 2` (no upper bound) and for token lists of any length.
-/
import SpVerif.Model.Merge
import SpVerif.Lemmas.Lit
namespace SpVerif.C11
open SpVerif SpVerif.Merge

/-! ### `mapE` (first failure wins) -/

theorem mapE_cons_ok {α β : Type} {f : α → Res β} {a : α} {as : List α} {r : List β}
    (h : mapE f (a :: as) = .ok r) : ∃ b bs, f a = .ok b ∧ mapE f as = .ok bs ∧ r = b :: bs := by
  unfold mapE at h
  generalize f a = x, mapE f as = y at h ⊢
  -- an error on either side is the result, and `h` says the result is `ok`
  cases x <;> cases y <;> cases h
  exact ⟨_, _, rfl, rfl, rfl⟩

theorem mapE_replicate {α β : Type} {f : α → Res β} {a : α} {b : β} (h : f a = .ok b) (n : Nat) :
    mapE f (List.replicate n a) = .ok (List.replicate n b) := by
  induction n with
  | zero => rfl
  | succ k ih => rw [List.replicate_succ, mapE, h, ih]; rfl

theorem mapE_replicate_error {α β : Type} (f : α → Res β) (a : α) (e : Err) (h : f a = .error e)
    (n : Nat) (hn : 0 < n) : mapE f (List.replicate n a) = .error e := by
  cases n with
  | zero => omega
  | succ k => rw [List.replicate_succ, mapE, h]

theorem mapE_length {α β : Type} {f : α → Res β} {l : List α} {r : List β} (h : mapE f l = .ok r) :
    r.length = l.length := by
  induction l generalizing r with
  | nil => cases h; rfl
  | cons a as ih =>
    obtain ⟨b, bs, -, hbs, rfl⟩ := mapE_cons_ok h
    rw [List.length_cons, List.length_cons, ih hbs]

theorem mapE_getElem {α β : Type} {f : α → Res β} {l : List α} {r : List β} (h : mapE f l = .ok r)
    (i : Nat) (hi : i < l.length) (hi' : i < r.length) : f l[i] = .ok r[i] := by
  induction l generalizing r i with
  | nil => exact absurd hi (Nat.not_lt_zero i)
  | cons a as ih =>
    obtain ⟨b, bs, hb, hbs, rfl⟩ := mapE_cons_ok h
    cases i with
    | zero => exact hb
    | succ j => exact ih hbs j (Nat.lt_of_succ_lt_succ hi) (Nat.lt_of_succ_lt_succ hi')

theorem mapE_mem {α β : Type} {f : α → Res β} {l : List α} {r : List β} (h : mapE f l = .ok r)
    {b : β} (hb : b ∈ r) : ∃ a ∈ l, f a = .ok b := by
  obtain ⟨i, hi, rfl⟩ := List.getElem_of_mem hb
  have hl : i < l.length := mapE_length h ▸ hi
  exact ⟨l[i], List.getElem_mem hl, mapE_getElem h i hl hi⟩

theorem mapE_map_id {α : Type} {f : α → Res α} {g : α → α} {l : List α}
    (h : ∀ a ∈ l, f (g a) = .ok a) : mapE f (l.map g) = .ok l := by
  induction l with
  | nil => rfl
  | cons a as ih =>
    rw [List.map_cons, mapE, h a List.mem_cons_self, ih fun x hx => h x (List.mem_cons_of_mem a hx)]

theorem mapE_id {α : Type} (f : α → Res α) (l : List α) (h : ∀ a ∈ l, f a = .ok a) :
    mapE f l = .ok l := by
  have := mapE_map_id (g := id) h
  rwa [List.map_id] at this

theorem mapE_total {α β : Type} {f : α → Res β} {l : List α} (h : ∀ a ∈ l, ∃ b, f a = .ok b) :
    ∃ r, mapE f l = .ok r := by
  induction l with
  | nil => exact ⟨[], rfl⟩
  | cons a as ih =>
    obtain ⟨b, hb⟩ := h a List.mem_cons_self
    obtain ⟨r, hr⟩ := ih fun x hx => h x (List.mem_cons_of_mem a hx)
    exact ⟨b :: r, by rw [mapE, hb, hr]⟩

/-! ### `duplicate_if_needed` -/

theorem elems_length (v : Val) : v.elems.length = v.len := by
  cases v <;> first | rfl | exact List.length_map _

theorem shortcut_some {fty : FieldTy} {n : Nat} {vs r : List Val} (h : shortcut fty n vs = some r) :
    fty.isContainer = false ∧ r.length = n ∧ ∃ v, vs = [v] ∧ v.nesting ≠ 0 := by
  revert h
  fun_cases shortcut fty n vs
  all_goals intro h
  · rename_i hf v hc
    rw [if_pos hc] at h
    cases h
    rw [Bool.and_eq_true, decide_eq_true_eq, decide_eq_true_eq] at hc
    refine ⟨(by cases fty <;> first | rfl | cases hf), (elems_length v).trans hc.2, v, rfl, fun h0 => ?_⟩
    have h2 : 1 + max 0 v.nesting = 2 := hc.1
    rw [h0] at h2
    exact absurd h2 (by decide)
  · rw [if_neg ‹_›] at h
    cases h
  · cases h
  · cases h

/-- with exactly `n ≥ 2` parsed values nothing is duplicated or re-grouped, whatever the field type -/
theorem duplicate_n (fty : FieldTy) (n : Nat) (vs : List Val) (hn : 2 ≤ n) (hl : vs.length = n) :
    duplicate fty n vs = .ok vs := by
  unfold duplicate
  cases hs : shortcut fty n vs with
  | none => exact if_pos hl
  | some r =>
    obtain ⟨-, -, v, rfl, -⟩ := shortcut_some hs
    subst hl
    exact absurd hn (by decide : ¬ 2 ≤ 1)

/-- one parsed value that is not a container itself (or any value, for a list/tuple field) is handed
    to every destination -/
theorem duplicate_one (fty : FieldTy) (n : Nat) (v : Val) (hn : 2 ≤ n)
    (hv : fty.isContainer = false → v.nesting = 0) :
    duplicate fty n [v] = .ok (List.replicate n v) := by
  unfold duplicate
  cases hs : shortcut fty n [v] with
  | none => exact if_neg fun h : 1 = n => by subst h; exact absurd hn (by decide)
  | some r =>
    obtain ⟨hc, -, v', hv', h0⟩ := shortcut_some hs
    cases hv'
    exact absurd (hv hc) h0

theorem duplicate_other (fty : FieldTy) (n : Nat) (vs : List Val) (h1 : vs.length ≠ 1)
    (hn : vs.length ≠ n) : duplicate fty n vs = .error (.raise .inconsistentArgumentError) := by
  unfold duplicate
  cases hs : shortcut fty n vs with
  | none =>
    simp only [hn, ↓reduceIte]
    split
    · exact absurd rfl h1
    · rfl
  | some r =>
    obtain ⟨-, -, v, rfl, -⟩ := shortcut_some hs
    exact absurd rfl h1

/-- whatever `duplicate_if_needed` returns has exactly n entries, so the `zip` with the
    destinations (`take n` in the model) never drops or misses a destination -/
theorem duplicate_length {fty : FieldTy} {n : Nat} {vs ws : List Val}
    (h : duplicate fty n vs = .ok ws) : ws.length = n := by
  revert h
  fun_cases duplicate fty n vs
  all_goals intro h
  all_goals cases h
  · exact (shortcut_some ‹_›).2.1
  · assumption
  · exact List.length_replicate

theorem distribute_of_duplicate {fty : FieldTy} {n : Nat} {vs ws : List Val}
    (h : duplicate fty n vs = .ok ws) : distribute fty n vs = mapE (postprocess fty) ws := by
  simp only [distribute, h, List.take_of_length_le (Nat.le_of_eq (duplicate_length h))]

theorem distribute_ok {fty : FieldTy} {n : Nat} {vs out : List Val} (h : distribute fty n vs = .ok out) :
    ∃ ws, duplicate fty n vs = .ok ws ∧ mapE (postprocess fty) ws = .ok out := by
  cases hd : duplicate fty n vs with
  | error e => simp only [distribute, hd] at h; cases h
  | ok ws => exact ⟨ws, rfl, distribute_of_duplicate hd ▸ h⟩

theorem distribute_length {fty : FieldTy} {n : Nat} {vs out : List Val}
    (h : distribute fty n vs = .ok out) : out.length = n := by
  obtain ⟨ws, hd, hpost⟩ := distribute_ok h
  rw [mapE_length hpost, duplicate_length hd]

theorem distribute_n (fty : FieldTy) (n : Nat) (ds : List Val) (hn : 2 ≤ n)
    (hl : ds.length = n) : distribute fty n ds = mapE (postprocess fty) ds :=
  distribute_of_duplicate (duplicate_n fty n ds hn hl)

/-! ### the option is given: one value, n values, any other number -/

theorem parseTok_scalar_nesting {fty : FieldTy} {tok : Tok} {v : Val} (h : parseTok fty tok = .ok v)
    (hc : fty.isContainer = false) : v.nesting = 0 := by
  cases fty with
  | scalar t =>
    have h : parseScalarTok t tok = .ok v := h
    unfold parseScalarTok at h
    -- every successful branch returns a `Val.sc`
    split at h <;> split at h <;> cases h <;> rfl
  | _ => cases hc

theorem argparseValues_eq {fty : FieldTy} {req : Bool} {toks : List Tok} (h : ¬ (req = true ∧ toks = [])) :
    argparseValues fty req toks = mapE (parseTok fty) toks :=
  if_neg (by rwa [Bool.and_eq_true, List.isEmpty_iff])

theorem argparseValues_ok {fty : FieldTy} {req : Bool} {toks : List Tok} {vs : List Val}
    (h : argparseValues fty req toks = .ok vs) : mapE (parseTok fty) toks = .ok vs := by
  unfold argparseValues at h
  split at h
  · cases h
  · exact h

theorem runField_given {fty : FieldTy} {n : Nat} {src : DefaultSrc} {toks : List Tok} {d : Option (List Val)}
    {vs : List Val} (hsetup : setupDefault fty n src = .ok d)
    (hargs : argparseValues fty (isRequired src) toks = .ok vs) :
    runField fty n src (some toks) = distribute fty n vs := by
  rw [runField, hsetup]
  simp only [hargs]

theorem runField_given_ok {fty : FieldTy} {n : Nat} {src : DefaultSrc} {toks : List Tok} {out : List Val}
    (h : runField fty n src (some toks) = .ok out) :
    ∃ d vs, setupDefault fty n src = .ok d ∧ argparseValues fty (isRequired src) toks = .ok vs
      ∧ distribute fty n vs = .ok out := by
  cases hs : setupDefault fty n src with
  | error e => simp only [runField, hs] at h; cases h
  | ok d =>
    cases ha : argparseValues fty (isRequired src) toks with
    | error e => simp only [runField, hs, ha] at h; cases h
    | ok vs => exact ⟨d, vs, rfl, rfl, runField_given hs ha ▸ h⟩

theorem runField_absent_ok {fty : FieldTy} {n : Nat} {src : DefaultSrc} {out : List Val}
    (h : runField fty n src none = .ok out) :
    ∃ dv, setupDefault fty n src = .ok (some dv) ∧ distribute fty n dv = .ok out := by
  unfold runField at h
  generalize setupDefault fty n src = s at h ⊢
  rcases s with _ | _ | dv
  · cases h
  · cases h
  · exact ⟨dv, rfl, h⟩

/-- **n values**: with exactly `n` tokens the i-th destination (registration order = position in
    `destinations`) receives the post-processed parse of the i-th token — for every field type. -/
theorem c11_n (fty : FieldTy) (n : Nat) (src : DefaultSrc) (toks : List Tok) (vs : List Val)
    (d : Option (List Val)) (hn : 2 ≤ n) (hk : toks.length = n)
    (hsetup : setupDefault fty n src = .ok d)
    (hparse : mapE (parseTok fty) toks = .ok vs) :
    runField fty n src (some toks) = mapE (postprocess fty) vs := by
  have hne : ¬ (isRequired src = true ∧ toks = []) := fun h => by
    rw [h.2] at hk; exact absurd (hk ▸ hn) (by decide)
  rw [runField_given hsetup (argparseValues_eq hne ▸ hparse),
    distribute_n fty n vs hn (by rw [mapE_length hparse, hk])]

/-- position-wise form of `c11_n` -/
theorem c11_n_index (fty : FieldTy) (n : Nat) (src : DefaultSrc) (toks : List Tok) (out : List Val)
    (d : Option (List Val)) (hn : 2 ≤ n) (hk : toks.length = n)
    (hsetup : setupDefault fty n src = .ok d)
    (hrun : runField fty n src (some toks) = .ok out) :
    out.length = n ∧ ∀ i (hi : i < toks.length) (ho : i < out.length),
      ∃ v, parseTok fty toks[i] = .ok v ∧ postprocess fty v = .ok out[i] := by
  obtain ⟨_, vs, _, hargs, _⟩ := runField_given_ok hrun
  have hparse := argparseValues_ok hargs
  rw [c11_n fty n src toks vs d hn hk hsetup hparse] at hrun
  have hl : vs.length = toks.length := mapE_length hparse
  have hlo : out.length = vs.length := mapE_length hrun
  refine ⟨hlo.trans (hl.trans hk), fun i hi ho => ?_⟩
  have hv : i < vs.length := hl ▸ hi
  exact ⟨vs[i], mapE_getElem hparse i hi hv, mapE_getElem hrun i hv ho⟩

/-- **one value**: a single token is parsed once and every destination receives that value -/
theorem c11_one (fty : FieldTy) (n : Nat) (src : DefaultSrc) (tok : Tok) (v v' : Val)
    (d : Option (List Val)) (hn : 2 ≤ n)
    (hsetup : setupDefault fty n src = .ok d)
    (hparse : parseTok fty tok = .ok v) (hpost : postprocess fty v = .ok v') :
    runField fty n src (some [tok]) = .ok (List.replicate n v') := by
  have hargs : argparseValues fty (isRequired src) [tok] = .ok [v] := by
    rw [argparseValues_eq fun h => List.cons_ne_nil _ _ h.2, mapE, hparse]
    rfl
  rw [runField_given hsetup hargs,
    distribute_of_duplicate (duplicate_one fty n v hn (parseTok_scalar_nesting hparse))]
  exact mapE_replicate hpost n

/-- **any other number of values** (including the option given with no value at all, when the
    field has a default) raises `InconsistentArgumentError` — for every field type -/
theorem c11_other (fty : FieldTy) (n : Nat) (src : DefaultSrc) (toks : List Tok) (vs : List Val)
    (d : Option (List Val)) (h1 : toks.length ≠ 1) (hk : toks.length ≠ n)
    (hreq : ¬ (isRequired src = true ∧ toks = []))
    (hsetup : setupDefault fty n src = .ok d)
    (hparse : mapE (parseTok fty) toks = .ok vs) :
    runField fty n src (some toks) = .error (.raise .inconsistentArgumentError) := by
  have hl : vs.length = toks.length := mapE_length hparse
  rw [runField_given hsetup (argparseValues_eq hreq ▸ hparse), distribute,
    duplicate_other fty n vs (hl ▸ h1) (hl ▸ hk)]

/-- a required field (no default) given without a value is rejected by argparse (`nargs='+'`) -/
theorem c11_zero_required (fty : FieldTy) (n : Nat) :
    runField fty n (.field none) (some []) = .error (.exit2 .nargs) := by
  rfl

/-! ### the option is absent -/

/-- a scalar default of the field's own type.  Only enum fields are constrained (a member): for the
    other scalar types `argDefault`/`postprocess` are the identity on EVERY value, so the theorems
    below hold there even for an ill-typed default (an int field with a str default gets that str
    everywhere — which is also what the code does). -/
def WellTypedScalar (t : ItemTy) (s : Scalar) : Prop :=
  ∀ ms, t = .enum ms → ∃ nm, s = .enum nm ∧ nm ∈ ms

/-- what `argDefault` does to one entry (enum members are handed to argparse by name) -/
def argDefault1 (fty : FieldTy) (v : Val) : Val :=
  match fty, v with
  | .scalar (.enum _), .sc (.enum nm) => .sc (.str nm)
  | _, v => v

theorem argDefault1_id (fty : FieldTy) (h : ∀ ms, fty ≠ .scalar (.enum ms)) (v : Val) :
    argDefault1 fty v = v := by
  unfold argDefault1
  split
  · exact absurd rfl (h _)
  · rfl

theorem argDefault_eq_map (fty : FieldTy) (p : List Val) : argDefault fty p = p.map (argDefault1 fty) := by
  unfold argDefault
  split
  · exact List.map_congr_left fun v _ => by
      cases v with
      | sc s => cases s <;> rfl
      | _ => rfl
  · exact (List.map_id'' (argDefault1_id fty ‹_›) p).symm

/-- a default VALUE OF THE FIELD'S OWN TYPE: handing it to argparse (enum by name) and
    post-processing what comes back reproduces it. Holds for every well-typed scalar
    (`stable_scalar`) and every list / tuple of the field's container kind, of ANY length
    (`stable_container`). -/
def StableDefault (fty : FieldTy) (v : Val) : Prop := postprocess fty (argDefault1 fty v) = .ok v

instance (fty : FieldTy) (v : Val) : Decidable (StableDefault fty v) := by
  unfold StableDefault; exact inferInstance

theorem stable_scalar (t : ItemTy) (s : Scalar) (h : WellTypedScalar t s) :
    StableDefault (.scalar t) (.sc s) := by
  unfold StableDefault
  cases t with
  | enum ms =>
    obtain ⟨nm, rfl, hnm⟩ := h ms rfl
    exact if_pos hnm
  | _ => rfl

theorem post_mkContainer (fty : FieldTy) (l : List Scalar) (hc : fty.isContainer = true) :
    postprocess fty (mkContainer fty l) = .ok (mkContainer fty l) := by
  cases fty <;> first | rfl | cases hc

theorem stable_container (fty : FieldTy) (l : List Scalar) (hc : fty.isContainer = true) :
    StableDefault fty (mkContainer fty l) := by
  cases fty <;> first | rfl | cases hc

theorem runField_absent {fty : FieldTy} {n : Nat} {src : DefaultSrc} {ds : List Val} (hn : 2 ≤ n)
    (hl : ds.length = n) (hsetup : setupDefault fty n src = .ok (some (argDefault fty ds)))
    (h : ∀ v ∈ ds, StableDefault fty v) : runField fty n src none = .ok ds := by
  simp only [runField, hsetup]
  rw [argDefault_eq_map, distribute_n _ _ _ hn (by rw [List.length_map, hl])]
  exact mapE_map_id h

/-- **absent, the field has a default** — every field type (scalar, list, tuple), any default of
    the field's type (a list or tuple of ANY length, also length n), any n ≥ 2: every destination
    gets the dataclass default, whole. -/
theorem c11_absent (fty : FieldTy) (v : Val) (n : Nat) (hn : 2 ≤ n) (h : StableDefault fty v) :
    runField fty n (.field (some v)) none = .ok (List.replicate n v) :=
  runField_absent hn List.length_replicate rfl fun _ hw => List.eq_of_mem_replicate hw ▸ h

/-- scalar instance of `c11_absent` -/
theorem c11_absent_scalar (t : ItemTy) (s : Scalar) (n : Nat) (hn : 2 ≤ n) (h : WellTypedScalar t s) :
    runField (.scalar t) n (.field (some (.sc s))) none = .ok (List.replicate n (.sc s)) :=
  c11_absent _ _ n hn (stable_scalar t s h)

/-- list / tuple instance of `c11_absent`: the default container is never taken apart, whatever
    its length (the former D12 case `l.length = n` included) -/
theorem c11_absent_container (fty : FieldTy) (l : List Scalar) (n : Nat) (hn : 2 ≤ n)
    (hc : fty.isContainer = true) :
    runField fty n (.field (some (mkContainer fty l))) none
      = .ok (List.replicate n (mkContainer fty l)) :=
  c11_absent _ _ n hn (stable_container fty l hc)

/-- **absent, per-destination default instances** (`add_arguments(..., default=inst)` at every
    destination, or nested members with default instances): destination `i` gets the attribute of
    ITS default instance — every field type -/
theorem c11_absent_parents (fty : FieldTy) (ds : List Val) (n : Nat) (hn : 2 ≤ n)
    (hl : ds.length = n) (h : ∀ v ∈ ds, StableDefault fty v) :
    runField fty n (.parents ds) none = .ok ds := by
  refine runField_absent hn hl ?_ h
  -- at least two instances, so they are per-destination defaults, and there are `n` of them
  cases ds with
  | nil => subst hl; exact absurd hn (by decide : ¬ 2 ≤ 0)
  | cons a t =>
    cases t with
    | nil => subst hl; exact absurd hn (by decide : ¬ 2 ≤ 1)
    | cons b r => simp [setupDefault, rawDefault, defaultPack, hl]

/-- **absent, no default**: argparse rejects the command line (the option is required) -/
theorem c11_absent_required (fty : FieldTy) (n : Nat) :
    runField fty n (.field none) none = .error (.exit2 .required) := by
  rfl

/-- the scalar is a value of the item type (for an enum: a member) -/
def hasTy : ItemTy → Scalar → Bool
  | .int, .int _ => true
  | .float, .float _ => true
  | .str, .str _ => true
  | .bool, .bool _ => true
  | .enum ms, .enum nm => decide (nm ∈ ms)
  | _, _ => false

theorem convStr_hasTy {t : ItemTy} {w : Str} {s : Scalar} (h : convStr t w = .ok s) : hasTy t s = true := by
  revert h
  fun_cases convStr t w
  -- a branch that returns `ok` returns a scalar of the type it was selected by
  all_goals intro h
  all_goals cases h
  -- the enum branch has tested `w ∈ ms`
  case case4 hw => exact decide_eq_true hw
  all_goals rfl

theorem convLit_hasTy {t : ItemTy} {l : Lit} {s : Scalar} (h : convLit t l = .ok (some s)) :
    hasTy t s = true := by
  revert h
  fun_cases convLit t l
  all_goals intro h
  all_goals cases h
  all_goals rfl

theorem convStrs_hasTy {t : ItemTy} {ws : List Str} {ss : List Scalar} (h : convStrs t ws = .ok ss) :
    ∀ s ∈ ss, hasTy t s = true := by
  revert h
  fun_induction convStrs t ws generalizing ss
  all_goals intro h
  all_goals cases h
  · exact fun _ hs => nomatch hs
  · rename_i hw _ hws ih
    exact List.forall_mem_cons.mpr ⟨convStr_hasTy hw, ih hws⟩

theorem convLits_hasTy {t : ItemTy} {ls : List Lit} {ss : List Scalar}
    (h : convLits t ls = .ok (some ss)) : ∀ s ∈ ss, hasTy t s = true := by
  revert h
  fun_induction convLits t ls generalizing ss
  all_goals intro h
  -- the branch that passes the tail's result on is taken only when that result is no `ok (some _)`
  case case7 hno _ => exact absurd h (hno ss)
  all_goals cases h
  · exact fun _ hs => nomatch hs
  · rename_i hl _ hls ih
    exact List.forall_mem_cons.mpr ⟨convLit_hasTy hl, ih hls⟩

theorem fallbackParse_typed {fty : FieldTy} {tok : Tok} {v : Val} (h : fallbackParse fty tok = .ok v) :
    ∃ l, v = mkContainer fty l ∧ ∀ s ∈ l, hasTy fty.itemTy s = true := by
  unfold fallbackParse at h
  generalize hc : convStrs fty.itemTy tok.fallbackWords = c at h
  cases c <;> cases h
  exact ⟨_, rfl, convStrs_hasTy hc⟩

/-- **every item of every parsed container is a value of the container's item type** (the type
    of a `List[T]` / `Tuple[T, ...]`, the FIRST type of a `Tuple[T1, T2, …]`), whatever the token
    shape: an int field never receives a str item, an enum field only members, … -/
theorem parseContainerTok_typed (fty : FieldTy) (tok : Tok) (v : Val)
    (h : parseContainerTok fty tok = .ok v) :
    ∃ l, v = mkContainer fty l ∧ ∀ s ∈ l, hasTy fty.itemTy s = true := by
  revert h
  fun_cases parseContainerTok fty tok
  all_goals intro h
  -- a branch is an error, or the fall-back splitter, …
  all_goals first | cases h | exact fallbackParse_typed h
  -- … or a container of converted literals: the one of a bare word, else all of them
  · exact ⟨_, rfl, List.forall_mem_singleton.mpr (convLit_hasTy ‹_›)⟩
  · exact ⟨_, rfl, convLits_hasTy ‹_›⟩
  · exact ⟨_, rfl, convLits_hasTy ‹_›⟩

/-! ### list / tuple fields: every token is one whole container -/

theorem parseTok_container {fty : FieldTy} (hc : fty.isContainer = true) {tok : Tok} {v : Val}
    (h : parseTok fty tok = .ok v) : ∃ l, v = mkContainer fty l := by
  have h' : parseContainerTok fty tok = .ok v := by
    cases fty <;> first | exact h | cases hc
  obtain ⟨l, hl, _⟩ := parseContainerTok_typed fty tok v h'
  exact ⟨l, hl⟩

/-- **a bare item is a one-element container**: a token that is one Python-literal word (`4`,
    `1.5`, `True`) which the item parser accepts gives `[item]` / `(item,)` -/
theorem c11_bare_item_singleton (fty : FieldTy) (w : Str) (l : Lit) (s : Scalar)
    (hw : classify w = .lit l) (hconv : convLit fty.itemTy l = .ok (some s)) :
    parseContainerTok fty (.bare w) = .ok (mkContainer fty [s]) := by
  simp only [parseContainerTok, hw, hconv]

/-- **whole containers**: every destination of a list / tuple field receives a whole container
    of the field's kind, never an element of one — any n, any number and shape of tokens.  (This
    statement speaks about the KIND of what arrives; WHICH container arrives is `c11_n` / `c11_one`:
    with n tokens the i-th token's container, with one token that token's container;
    `c11_absent_container` covers the absent option, and the items are values of the item type by
    `parseContainerTok_typed`.) -/
theorem c11_whole_containers (fty : FieldTy) (n : Nat) (src : DefaultSrc) (toks : List Tok)
    (out : List Val) (hc : fty.isContainer = true)
    (hrun : runField fty n src (some toks) = .ok out) :
    ∀ v ∈ out, ∃ l, v = mkContainer fty l := by
  obtain ⟨_, vs, _, hargs, hdist⟩ := runField_given_ok hrun
  obtain ⟨ws, hdup, hpost⟩ := distribute_ok hdist
  -- without the shortcut, `duplicate_if_needed` only repeats or passes on what was parsed
  have hws : ∀ w ∈ ws, w ∈ vs := by
    revert hdup
    fun_cases duplicate fty n vs
    all_goals intro hdup
    all_goals cases hdup
    · exact absurd ((shortcut_some ‹_›).1.symm.trans hc) Bool.false_ne_true
    · exact fun _ hw => hw
    · exact fun w hw => List.eq_of_mem_replicate hw ▸ List.mem_singleton_self _
  intro v hv
  obtain ⟨w, hw, hp⟩ := mapE_mem hpost hv
  obtain ⟨tok, _, hparse⟩ := mapE_mem (argparseValues_ok hargs) (hws w hw)
  obtain ⟨l, rfl⟩ := parseTok_container hc hparse
  rw [post_mkContainer fty l hc] at hp
  cases hp
  exact ⟨l, rfl⟩

/-- the same for the absent option: the destinations receive whole default containers -/
theorem c11_whole_containers_absent (fty : FieldTy) (l : List Scalar) (n : Nat) (hn : 2 ≤ n)
    (hc : fty.isContainer = true) (out : List Val)
    (hrun : runField fty n (.field (some (mkContainer fty l))) none = .ok out) :
    ∀ v ∈ out, v = mkContainer fty l := by
  rw [c11_absent_container fty l n hn hc] at hrun
  cases hrun
  exact fun v hv => List.eq_of_mem_replicate hv

/-! ### lengths: a successful run yields exactly one value per destination -/

/-- **one value per destination**: every successful run — option given or absent, any field
    type, any n — returns exactly n values -/
theorem runField_length (fty : FieldTy) (n : Nat) (src : DefaultSrc) (arg : Option (List Tok))
    (out : List Val) (h : runField fty n src arg = .ok out) : out.length = n := by
  cases arg with
  | some toks =>
    obtain ⟨_, vs, _, _, hd⟩ := runField_given_ok h
    exact distribute_length hd
  | none =>
    obtain ⟨dv, _, hd⟩ := runField_absent_ok h
    exact distribute_length hd

/-! ### valid tokens: the run SUCCEEDS -/

/-- whatever the `type=` callable of the field accepts, `postprocess` accepts too -/
theorem post_of_parse {fty : FieldTy} {tok : Tok} {v : Val} (h : parseTok fty tok = .ok v) :
    ∃ v', postprocess fty v = .ok v' := by
  cases hc : fty.isContainer with
  | true =>
    obtain ⟨l, rfl⟩ := parseTok_container hc h
    exact ⟨_, post_mkContainer fty l hc⟩
  | false =>
    cases fty with
    | scalar t =>
      cases t with
      | enum ms =>
        -- `choices=` has let only member names through, and those `postprocess` finds
        have h : (if tok.render ∈ ms then _ else _ : Res Val) = .ok v := h
        split at h <;> cases h
        exact ⟨_, if_pos ‹_›⟩
      | _ => exact ⟨v, rfl⟩
    | _ => cases hc

/-- **one value, success**: a single token that `type=` accepts reaches every destination — no
    assumption about `postprocess` -/
theorem c11_one_ok (fty : FieldTy) (n : Nat) (src : DefaultSrc) (tok : Tok) (v : Val)
    (d : Option (List Val)) (hn : 2 ≤ n) (hsetup : setupDefault fty n src = .ok d)
    (hparse : parseTok fty tok = .ok v) :
    ∃ v', postprocess fty v = .ok v' ∧ runField fty n src (some [tok]) = .ok (List.replicate n v') := by
  obtain ⟨v', hv'⟩ := post_of_parse hparse
  exact ⟨v', hv', c11_one fty n src tok v v' d hn hsetup hparse hv'⟩

/-- **n values, success**: n tokens that `type=` accepts give a result with n entries, the
    i-th being the i-th token's value (`c11_n_index`) -/
theorem c11_n_ok (fty : FieldTy) (n : Nat) (src : DefaultSrc) (toks : List Tok)
    (d : Option (List Val)) (hn : 2 ≤ n) (hk : toks.length = n)
    (hsetup : setupDefault fty n src = .ok d)
    (hvalid : ∀ tok ∈ toks, ∃ v, parseTok fty tok = .ok v) :
    ∃ out, runField fty n src (some toks) = .ok out ∧ out.length = n := by
  obtain ⟨vs, hvs⟩ := mapE_total hvalid
  have hpost : ∀ v ∈ vs, ∃ v', postprocess fty v = .ok v' := fun v hv => by
    obtain ⟨tok, _, hp⟩ := mapE_mem hvs hv
    exact post_of_parse hp
  obtain ⟨out, hout⟩ := mapE_total hpost
  have hrun := c11_n fty n src toks vs d hn hk hsetup hvs
  exact ⟨out, hrun.trans hout, runField_length fty n src _ out (hrun.trans hout)⟩

/-! ### what a token denotes (closed forms for the word classes that need no lexical assumption) -/

/-- a member NAME given to an enum field yields that member at every destination -/
theorem c11_one_enum (ms : List Str) (w : Str) (n : Nat) (src : DefaultSrc) (d : Option (List Val))
    (hn : 2 ≤ n) (hsetup : setupDefault (.scalar (.enum ms)) n src = .ok d) (hw : w ∈ ms) :
    runField (.scalar (.enum ms)) n src (some [.bare w]) = .ok (List.replicate n (.sc (.enum w))) :=
  -- `choices=` lets the name through as a string, `postprocess` looks the member up
  c11_one _ n src _ (.sc (.str w)) _ d hn hsetup (if_pos hw) (if_pos hw)

/-- a word that is no member name is rejected by argparse (`choices=`), whatever else is given -/
theorem c11_enum_not_member (ms : List Str) (w : Str) (n : Nat) (src : DefaultSrc)
    (d : Option (List Val)) (hsetup : setupDefault (.scalar (.enum ms)) n src = .ok d) (hw : w ∉ ms) :
    runField (.scalar (.enum ms)) n src (some [.bare w]) = .error (.exit2 .choice) := by
  simp [runField, hsetup, argparseValues, mapE, parseTok, parseScalarTok, Tok.render, hw]

/-- a word of the boolean vocabulary (C12: `str2bool`) yields that boolean at every destination -/
theorem c11_one_bool (w : Str) (b : Bool) (n : Nat) (src : DefaultSrc) (d : Option (List Val))
    (hn : 2 ≤ n) (hsetup : setupDefault (.scalar .bool) n src = .ok d) (hw : str2bool w = some b) :
    runField (.scalar .bool) n src (some [.bare w]) = .ok (List.replicate n (.sc (.bool b))) := by
  refine c11_one _ n src _ (.sc (.bool b)) _ d hn hsetup ?_ rfl
  simp only [parseTok, parseScalarTok, Tok.render, convStr, hw]

/-- any string given to a str field is that string at every destination -/
theorem c11_one_str (w : Str) (n : Nat) (src : DefaultSrc) (d : Option (List Val))
    (hn : 2 ≤ n) (hsetup : setupDefault (.scalar .str) n src = .ok d) :
    runField (.scalar .str) n src (some [.bare w]) = .ok (List.replicate n (.sc (.str w))) :=
  c11_one _ n src _ (.sc (.str w)) _ d hn hsetup rfl rfl

/-- identifier-like words are no Python literals: `literal_eval` raises -/
theorem litWords_alpha (w : Str) (r : List Str) (h : ∀ x ∈ w :: r, classify x = .alpha) :
    litWords (w :: r) = .ok none := by
  induction r generalizing w with
  | nil => simp only [litWords, h w List.mem_cons_self]
  | cons w' r ih =>
    rw [litWords, h w List.mem_cons_self, ih w' fun x hx => h x (List.mem_cons_of_mem w hx)]

/-- **one container, three spellings**: for identifier-like words (member names, boolean words,
    plain strings) `[a,b]`, `a,b` and the quoted `"a b"` denote the same container: the items
    converted by the item parser, in order -/
theorem parseContainerTok_alpha (fty : FieldTy) (ws : List Str) (ss : List Scalar) (hne : ws ≠ [])
    (halpha : ∀ w ∈ ws, classify w = .alpha) (hconv : convStrs fty.itemTy ws = .ok ss) :
    parseContainerTok fty (.bracket true ws) = .ok (mkContainer fty ss)
    ∧ parseContainerTok fty (.comma ws) = .ok (mkContainer fty ss)
    ∧ parseContainerTok fty (.spaced ws) = .ok (mkContainer fty ss) := by
  obtain ⟨w, r, rfl⟩ := List.exists_cons_of_ne_nil hne
  have hlit := litWords_alpha w r halpha
  -- all three spellings end in the fall-back splitter, which sees the same words
  have hfb : ∀ tok : Tok, tok.fallbackWords = w :: r → fallbackParse fty tok = .ok (mkContainer fty ss) :=
    fun tok ht => by rw [fallbackParse, ht, hconv]
  refine ⟨?_, ?_, hfb _ rfl⟩
  · simp only [parseContainerTok, hlit]
    exact hfb _ rfl
  · simp only [parseContainerTok, hlit]
    exact hfb _ rfl

theorem mkContainer_inj {fty : FieldTy} {l l' : List Scalar} (h : mkContainer fty l = mkContainer fty l') :
    l = l' := by
  unfold mkContainer at h
  split at h <;> cases h <;> rfl

/-- the annotated type of position i -/
def itemTyAt : FieldTy → Nat → Option ItemTy
  | .list t, _ => some t
  | .vtuple t, _ => some t
  | .tuple ts, i => ts[i]?
  | .scalar _, _ => none

/-- the full statement: the item at position i is a value of the type annotated for position i … -/
def PositionTyped : Prop :=
  ∀ (fty : FieldTy) (tok : Tok) (l : List Scalar), fty.isContainer = true →
    parseContainerTok fty tok = .ok (mkContainer fty l) →
    ∀ (i : Nat) (hi : i < l.length) (t : ItemTy), itemTyAt fty i = some t → hasTy t l[i] = true

/-- … is refuted by a heterogeneous tuple (open finding C11-hetero-tuple): `Tuple[str,int]`
    given `[b,2]` yields `('b', '2')` — a str where an int is annotated -/
theorem c11_hetero_tuple_witness : ¬ PositionTyped := by
  intro h
  -- position 1 is annotated `int` and holds the str `'2'`
  exact Bool.false_ne_true (h (.tuple [.str, .int]) (.bracket true ["b".toList, "2".toList])
    [.str "b".toList, .str "2".toList] rfl (by decide_lit) 1 (by decide) .int rfl)

/-- the other face of the same defect: `Tuple[int,str]` rejects its own values (every position is
    parsed by `int`): `[2,b]`, `2 b` and `2,b` are argparse errors -/
theorem c11_hetero_tuple_reject_witness :
    parseContainerTok (.tuple [.int, .str]) (.bracket true ["2".toList, "b".toList]) = .error (.exit2 .type)
    ∧ parseContainerTok (.tuple [.int, .str]) (.spaced ["2".toList, "b".toList]) = .error (.exit2 .type)
    ∧ parseContainerTok (.tuple [.int, .str]) (.comma ["2".toList, "b".toList]) = .error (.exit2 .type) := by
  decide_lit

/-- named exclusion: every annotated position has the first position's type -/
def homogeneous : FieldTy → Bool
  | .tuple (t :: ts) => ts.all (fun x => decide (x = t))
  | _ => true

theorem itemTyAt_homogeneous {fty : FieldTy} (hh : homogeneous fty = true) {i : Nat} {t : ItemTy}
    (h : itemTyAt fty i = some t) : t = fty.itemTy := by
  cases fty with
  | scalar _ => cases h
  | list _ | vtuple _ => cases h; rfl
  | tuple ts =>
    cases ts with
    | nil => cases h
    | cons t0 r =>
      cases i with
      | zero => cases h; rfl
      | succ j => exact of_decide_eq_true (List.all_eq_true.mp hh t (List.mem_of_getElem? h))

/-- **position-typed (partial)**: for `List[T]`, `Tuple[T, ...]` and tuples whose positions all
    have the same type, every position holds a value of its annotated type -/
theorem c11_position_typed_partial (fty : FieldTy) (tok : Tok) (l : List Scalar)
    (hh : homogeneous fty = true)
    (h : parseContainerTok fty tok = .ok (mkContainer fty l))
    (i : Nat) (hi : i < l.length) (t : ItemTy) (ht : itemTyAt fty i = some t) :
    hasTy t l[i] = true := by
  obtain ⟨l', hl', htyped⟩ := parseContainerTok_typed fty tok _ h
  have := mkContainer_inj hl'
  subst this
  rw [itemTyAt_homogeneous hh ht]
  exact htyped _ (List.getElem_mem hi)

/-! ### the whole-parse model used by the correspondence check reduces to `runField` -/

def wrap1 : Res (List Val) → Res (List (List Val))
  | .ok x => .ok [x]
  | .error e => .error e

/-- one field, option given once: `runCase` (set-up, argparse, required check, distribution) is `runField` -/
theorem runCase_single_given (fty : FieldTy) (n : Nat) (src : DefaultSrc) (toks : List Tok) :
    runCase n [⟨fty, src⟩] [(0, toks)] = wrap1 (runField fty n src (some toks)) := by
  simp only [runCase, runField, setupAll, argparseAll, List.getElem?_cons_zero]
  -- whatever the three stages return, both sides compute to the same
  generalize setupDefault fty n src = s, argparseValues fty (isRequired src) toks = a
  cases s with
  | error e => rfl
  | ok d =>
    cases a with
    | error e => rfl
    | ok vs =>
      simp only [storedAll, lookupLast, ↓reduceIte, distributeAll]
      cases distribute fty n vs <;> rfl

/-- one field, option absent -/
theorem runCase_single_absent (fty : FieldTy) (n : Nat) (src : DefaultSrc) :
    runCase n [⟨fty, src⟩] [] = wrap1 (runField fty n src none) := by
  simp only [runCase, runField, setupAll, argparseAll]
  generalize setupDefault fty n src = s
  cases s with
  | error e => rfl
  | ok d =>
    cases d with
    | none => rfl
    | some dv =>
      simp only [storedAll, lookupLast, distributeAll]
      cases distribute fty n dv <;> rfl

/-! ### several fields of one class: the phases of a whole parse do not mix the fields up -/

/-- **two fields, both given** (either order on the command line): each field's destinations get
    exactly what the field alone would give them -/
theorem runCase_two_given (n : Nat) (f0 f1 : FieldCase) (t0 t1 : List Tok) (o0 o1 : List Val)
    (h0 : runField f0.fty n f0.src (some t0) = .ok o0)
    (h1 : runField f1.fty n f1.src (some t1) = .ok o1) :
    runCase n [f0, f1] [(0, t0), (1, t1)] = .ok [o0, o1]
    ∧ runCase n [f0, f1] [(1, t1), (0, t0)] = .ok [o0, o1] := by
  obtain ⟨d0, vs0, hs0, ha0, hd0⟩ := runField_given_ok h0
  obtain ⟨d1, vs1, hs1, ha1, hd1⟩ := runField_given_ok h1
  constructor <;>
    simp only [runCase, setupAll, hs0, hs1, argparseAll, ha0, ha1, storedAll, lookupLast, distributeAll, hd0, hd1,
      List.getElem?_cons_zero, List.getElem?_cons_succ, ↓reduceIte, Nat.zero_add, Nat.reduceEqDiff]

/-- **two fields, one absent**: the absent field's destinations get its defaults, the other's
    get the values — in either declaration position -/
theorem runCase_two_one_absent (n : Nat) (f0 f1 : FieldCase) (t : List Tok) (o0 o1 : List Val) :
    (runField f0.fty n f0.src (some t) = .ok o0 → runField f1.fty n f1.src none = .ok o1 →
      runCase n [f0, f1] [(0, t)] = .ok [o0, o1])
    ∧ (runField f0.fty n f0.src none = .ok o0 → runField f1.fty n f1.src (some t) = .ok o1 →
      runCase n [f0, f1] [(1, t)] = .ok [o0, o1]) := by
  constructor
  · intro h0 h1
    obtain ⟨d0, vs0, hs0, ha0, hd0⟩ := runField_given_ok h0
    obtain ⟨dv1, hs1, hd1⟩ := runField_absent_ok h1
    simp only [runCase, setupAll, hs0, hs1, argparseAll, ha0, storedAll, lookupLast, distributeAll, hd0, hd1,
      List.getElem?_cons_zero, ↓reduceIte, Nat.zero_add, Nat.reduceEqDiff]
  · intro h0 h1
    obtain ⟨dv0, hs0, hd0⟩ := runField_absent_ok h0
    obtain ⟨d1, vs1, hs1, ha1, hd1⟩ := runField_given_ok h1
    simp only [runCase, setupAll, hs0, hs1, argparseAll, ha1, storedAll, lookupLast, distributeAll, hd0, hd1,
      List.getElem?_cons_zero, List.getElem?_cons_succ, ↓reduceIte, Nat.zero_add, Nat.reduceEqDiff]

/-- **an option given twice**: argparse's `store` keeps the LAST occurrence (the earlier one must
    still be acceptable to `type=`) -/
theorem runCase_last_wins (fty : FieldTy) (n : Nat) (src : DefaultSrc) (t0 t1 : List Tok) (vs0 : List Val)
    (h0 : argparseValues fty (isRequired src) t0 = .ok vs0) :
    runCase n [⟨fty, src⟩] [(0, t0), (0, t1)] = wrap1 (runField fty n src (some t1)) := by
  simp only [runCase, runField, setupAll, argparseAll, List.getElem?_cons_zero, h0]
  generalize setupDefault fty n src = s, argparseValues fty (isRequired src) t1 = a
  cases s with
  | error e => rfl
  | ok d =>
    cases a with
    | error e => rfl
    | ok vs =>
      simp only [storedAll, lookupLast, ↓reduceIte, distributeAll]
      cases distribute fty n vs <;> rfl

/-! ### registration order of the merged destinations (`DataclassWrapper.merge`) -/

theorem nodup_next {acc r : List Str} {d : Str} (h : (acc ++ d :: r).Nodup) :
    d ∉ acc ∧ (acc ++ [d] ++ r).Nodup :=
  ⟨fun hm => (List.nodup_append.mp h).2.2 d hm d List.mem_cons_self rfl, List.append_cons acc d r ▸ h⟩

theorem appendNew_nodup (acc ds : List Str) (h : (acc ++ ds).Nodup) : appendNew acc ds = acc ++ ds := by
  induction ds generalizing acc with
  | nil => rw [appendNew, List.append_nil]
  | cons d r ih =>
    obtain ⟨hd, h'⟩ := nodup_next h
    rw [appendNew, if_neg hd, ih _ h', ← List.append_cons]

/-- a wrapper without nested members, registered at destination `d`, carrying default instances `f` -/
def leafW (d : Str) (f : List Nat) : DW := .mk [d] f []

theorem extendDefaults_nil (root : Bool) (f : List Nat) : extendDefaults root f [] = f := by
  unfold extendDefaults
  cases root <;> cases f <;> simp

theorem extendDefaults_assoc (root : Bool) (f r rest : List Nat) :
    extendDefaults root (extendDefaults root f r) rest = extendDefaults root f (r ++ rest) := by
  unfold extendDefaults
  cases root <;> cases f <;> simp

theorem mergeAll_cons (root : Bool) (w x : DW) (xs : List DW) :
    mergeAll root w (x :: xs) = mergeAll root (DW.merge root w x) xs := rfl

theorem merge_new {root : Bool} {acc : List Str} {f : List Nat} {cs : List DW} {d : Str} {g : List Nat}
    {os : List DW} (hd : d ∉ acc) :
    DW.merge root (.mk acc f cs) (.mk [d] g os)
      = .mk (acc ++ [d]) (extendDefaults root f g) (mergeChildren cs os) := by
  rw [DW.merge, appendNew, if_neg hd, appendNew]

/-- `d`, `g`: destination and default instances of a registration -/
theorem mergeAll_leaves {α : Type} (d : α → Str) (g : α → List Nat) (root : Bool) (acc : List Str)
    (f : List Nat) (regs : List α) (h : (acc ++ regs.map d).Nodup) :
    mergeAll root (.mk acc f []) (regs.map (fun r => leafW (d r) (g r)))
      = .mk (acc ++ regs.map d) (extendDefaults root f (regs.map g).flatten) [] := by
  induction regs generalizing acc f with
  | nil => simp only [List.map_nil, List.append_nil, List.flatten_nil, extendDefaults_nil]; rfl
  | cons r rs ih =>
    obtain ⟨hd, h'⟩ := nodup_next h
    rw [List.map_cons, mergeAll_cons, leafW, merge_new hd, mergeChildren, ih _ _ h',
      extendDefaults_assoc, ← List.append_cons, List.map_cons, List.map_cons, List.flatten_cons]

/-- **registration order**: the same class registered at n pairwise different destinations
    `d₀ … d_{n-1}` (any n) is merged into ONE wrapper whose destinations are exactly
    `d₀ … d_{n-1}` in registration order; the default instances follow in the same order
    (for directly registered classes only if the FIRST registration has one: otherwise the code
    drops them all — see `extendDefaults`). -/
theorem c11_registration_order (root : Bool) (d0 : Str) (f0 : List Nat) (regs : List (Str × List Nat))
    (h : (d0 :: regs.map (·.1)).Nodup) :
    mergeAll root (leafW d0 f0) (regs.map (fun r => leafW r.1 r.2))
      = .mk (d0 :: regs.map (·.1)) (extendDefaults root f0 (regs.map (·.2)).flatten) [] :=
  mergeAll_leaves _ _ root [d0] f0 regs h

/-! ### nested members: the enclosing wrappers merge first, their children pairwise -/

/-- a registered class `P{m: C}` at destination `p`: one child wrapper at `c` with default instances `g` -/
def parentW (p c : Str) (g : List Nat) : DW := .mk [p] [] [leafW c g]

theorem mergeAll_one_child (root : Bool) (acc : List Str) (c : DW) (regs : List (Str × Str × List Nat))
    (h : (acc ++ regs.map (·.1)).Nodup) :
    mergeAll root (.mk acc [] [c]) (regs.map (fun r => parentW r.1 r.2.1 r.2.2))
      = .mk (acc ++ regs.map (·.1)) [] [mergeAll false c (regs.map (fun r => leafW r.2.1 r.2.2))] := by
  induction regs generalizing acc c with
  | nil => simp only [List.map_nil, List.append_nil]; rfl
  | cons r rs ih =>
    obtain ⟨hd, h'⟩ := nodup_next h
    rw [List.map_cons, mergeAll_cons, parentW, merge_new hd, mergeChildren, mergeChildren,
      extendDefaults_nil, ih _ _ h', ← List.append_cons]
    rfl

/-- **registration order, nested members**: `P{m: C}` registered at `p₀ … p_{n-1}` (P wrappers
    merged first, e.g. because P has a field of its own): the merged C wrapper has the member
    destinations `p₀.m … p_{n-1}.m` and their default instances in registration order — any n -/
theorem c11_registration_order_nested (root : Bool) (p0 c0 : Str) (g0 : List Nat)
    (regs : List (Str × Str × List Nat))
    (hP : (p0 :: regs.map (·.1)).Nodup) (hC : (c0 :: regs.map (·.2.1)).Nodup) :
    mergeAll root (parentW p0 c0 g0) (regs.map (fun r => parentW r.1 r.2.1 r.2.2))
      = .mk (p0 :: regs.map (·.1)) []
          [.mk (c0 :: regs.map (·.2.1)) (g0 ++ (regs.map (·.2.2)).flatten) []] := by
  rw [parentW, mergeAll_one_child root [p0] _ regs hP, leafW, mergeAll_leaves _ _ false [c0] g0 regs hC]
  rfl

/-- which destination holds which value: `zip(self.destinations, values)` -/
def assign (dests : List Str) (out : List Val) : List (Str × Val) := dests.zip out

/-- **n values, by destination name**: the same class registered at `d₀ … d_{n-1}` and an option
    given n tokens: the i-th REGISTERED destination is paired with the post-processed parse of the
    i-th token (part A's order + part B's positions) -/
theorem c11_n_assigned (root : Bool) (fty : FieldTy) (src : DefaultSrc) (d0 : Str)
    (regs : List (Str × List Nat)) (toks : List Tok) (out : List Val) (d : Option (List Val))
    (hnd : (d0 :: regs.map (·.1)).Nodup) (hn : 2 ≤ regs.length + 1) (hk : toks.length = regs.length + 1)
    (hsetup : setupDefault fty (regs.length + 1) src = .ok d)
    (hrun : runField fty (regs.length + 1) src (some toks) = .ok out)
    (i : Nat) (hi : i < regs.length + 1) :
    ∃ v, parseTok fty (toks[i]'(by omega)) = .ok v
      ∧ postprocess fty v = .ok (out[i]'(by
          rw [(c11_n_index fty _ src toks out d hn hk hsetup hrun).1]; exact hi))
      ∧ (assign (mergeAll root (leafW d0 []) (regs.map (fun r => leafW r.1 r.2))).dests out)[i]?
          = some ((d0 :: regs.map (·.1))[i]'(by simpa using hi),
                  out[i]'(by rw [(c11_n_index fty _ src toks out d hn hk hsetup hrun).1]; exact hi)) := by
  obtain ⟨hlen, hidx⟩ := c11_n_index fty _ src toks out d hn hk hsetup hrun
  obtain ⟨v, hv, hp⟩ := hidx i (Nat.lt_of_lt_of_eq hi hk.symm) (Nat.lt_of_lt_of_eq hi hlen.symm)
  refine ⟨v, hv, hp, ?_⟩
  rw [c11_registration_order root d0 [] regs hnd]
  exact List.getElem?_zip_eq_some.mpr ⟨List.getElem?_eq_getElem _, List.getElem?_eq_getElem _⟩

/-! ### open findings: witnesses -/

/-- the full statement "merging keeps every default instance, in order" … -/
def DefaultsKept : Prop :=
  ∀ (root : Bool) (d0 : Str) (f0 : List Nat) (regs : List (Str × List Nat)),
    (d0 :: regs.map (·.1)).Nodup →
    (mergeAll root (leafW d0 f0) (regs.map (fun r => leafW r.1 r.2))).defaults
      = f0 ++ (regs.map (·.2)).flatten

/-- … is refuted for directly registered classes (open finding C11-partial-default-instances):
    `add_arguments(C, "d0")`, `add_arguments(C, "d1", default=inst)` — d1's instance is dropped -/
theorem c11_partial_defaults_witness : ¬ DefaultsKept := by
  intro h
  have := h true "d0".toList [] [("d1".toList, [1])] (by decide_lit)
  revert this
  decide_lit

/-- the other two faces of C11-partial-default-instances: an instance at d0 only is handed to
    EVERY destination (d1 silently gets d0's value 10 instead of the class default), and instances
    at 2 of 3 destinations make set-up fail with the packaging AssertionError -/
theorem c11_partial_defaults_outcomes_witness :
    runField (.scalar .int) 2 (.parents [.sc (.int 10)]) none = .ok [.sc (.int 10), .sc (.int 10)]
    ∧ runField (.scalar .int) 3 (.parents [.sc (.int 1), .sc (.int 5)]) none
        = .error (.raise .assertionError) := by decide +kernel

/-- when every registration (or none) carries an instance nothing is lost
    (`c11_registration_order_defaults`, `c11_absent_parents`); nested wrappers never lose any -/
theorem c11_defaults_kept_partial (root : Bool) (d0 : Str) (f0 : List Nat) (regs : List (Str × List Nat))
    (hnd : (d0 :: regs.map (·.1)).Nodup) (hex : root = false ∨ f0 ≠ []) :
    (mergeAll root (leafW d0 f0) (regs.map (fun r => leafW r.1 r.2))).defaults
      = f0 ++ (regs.map (·.2)).flatten := by
  rw [c11_registration_order root d0 f0 regs hnd]
  -- `extendDefaults` drops the instances only at a root whose first registration has none
  refine if_neg fun hdrop => ?_
  rcases hex with rfl | h
  · exact Bool.false_ne_true hdrop
  · rw [Bool.and_eq_true, List.isEmpty_iff] at hdrop
    exact h hdrop.2

/-- every registration carries a default instance: none is lost, the order is kept -/
theorem c11_registration_order_defaults (root : Bool) (d0 : Str) (i0 : Nat) (regs : List (Str × List Nat))
    (h : (d0 :: regs.map (·.1)).Nodup) :
    (mergeAll root (leafW d0 [i0]) (regs.map (fun r => leafW r.1 r.2))).defaults
        = i0 :: (regs.map (·.2)).flatten :=
  c11_defaults_kept_partial root d0 [i0] regs h (.inr (List.cons_ne_nil _ _))

/-- the full statement "the merged member destinations follow the registrations: d0.m0, d0.m1,
    d1.m0, d1.m1" for `S{m0, m1: C}` at d0, d1 … -/
def SiblingsRegistrationMajor : Prop :=
  ∀ (sRootsMergeFirst : Bool),
    (let s0 : DW := .mk ["d0".toList] [] [leafW "d0.m0".toList [], leafW "d0.m1".toList []]
     let s1 : DW := .mk ["d1".toList] [] [leafW "d1.m0".toList [], leafW "d1.m1".toList []]
     let cs : List DW := if sRootsMergeFirst then (DW.merge true s0 s1).children
                         else s0.children ++ s1.children
     (mergeAll false (cs.headD (leafW [] [])) cs.tail).dests)
      = ["d0.m0".toList, "d0.m1".toList, "d1.m0".toList, "d1.m1".toList]
attribute [lit] SiblingsRegistrationMajor

/-- … is refuted when S has a field of its own (open finding C11-order-depends-on-own-field): the
    S wrappers clash first and are merged first, their children pairwise, and the destinations
    become member-major d0.m0, d1.m0, d0.m1, d1.m1 — so `--fa 1 2 3 4` gives d1.m0 the 2nd value -/
theorem c11_order_own_field_witness : ¬ SiblingsRegistrationMajor := by
  intro h
  have := h true
  revert this
  decide_lit

/-- without an own field on S (the member wrappers clash directly) the order IS registration-major -/
theorem c11_order_without_own_field :
    (mergeAll false (leafW "d0.m0".toList [])
      [leafW "d0.m1".toList [], leafW "d1.m0".toList [], leafW "d1.m1".toList []]).dests
      = ["d0.m0".toList, "d0.m1".toList, "d1.m0".toList, "d1.m1".toList] := by decide_lit

/-! ### non-vacuity: the hypotheses are satisfiable by non-trivial inputs -/

-- c11_n: three destinations, three different int tokens
example : runField (.scalar .int) 3 (.field (some (.sc (.int 1))))
    (some [.bare "5".toList, .bare "-6".toList, .bare "7".toList])
    = .ok [.sc (.int 5), .sc (.int (-6)), .sc (.int 7)] := by decide_lit
-- c11_n for a list field: whole containers in three different token shapes
example : runField (.list .int) 3 (.field (some (.list [.int 1, .int 2, .int 3])))
    (some [.bracket true ["4".toList, "5".toList], .spaced ["6".toList, "7".toList], .comma ["8".toList, "9".toList]])
    = .ok [.list [.int 4, .int 5], .list [.int 6, .int 7], .list [.int 8, .int 9]] := by decide_lit
-- c11_one: an enum field (parsed by name, choices checked, converted in postprocess)
example : runField (.scalar (.enum ["RED".toList, "BLUE".toList])) 4 (.field (some (.sc (.enum "RED".toList))))
    (some [.bare "BLUE".toList]) = .ok (List.replicate 4 (.sc (.enum "BLUE".toList))) :=
  c11_one_enum _ _ 4 _ _ (by decide) rfl (.tail _ (.head _))
-- c11_other: two values for three destinations
example : runField (.scalar .bool) 3 (.field (some (.sc (.bool false))))
    (some [.bare "true".toList, .bare "no".toList]) = .error (.raise .inconsistentArgumentError) := by decide_lit
-- c11_other: the option given with no value although the field has a default
example : runField (.scalar .bool) 2 (.field (some (.sc (.bool false)))) (some [])
    = .error (.raise .inconsistentArgumentError) := by decide +kernel
-- c11_absent: a well-typed enum default
example : WellTypedScalar (.enum ["RED".toList, "BLUE".toList]) (.enum "BLUE".toList) := by
  intro ms h; cases h; exact ⟨_, rfl, .tail _ (.head _)⟩
example : runField (.scalar .str) 5 (.field (some (.sc (.str "x".toList)))) none
    = .ok (List.replicate 5 (.sc (.str "x".toList))) :=
  c11_absent_scalar .str _ 5 (by decide) fun _ h => nomatch h
example : StableDefault (.list .int) (.list [.int 1, .int 2]) := by decide +kernel
-- c11_absent_parents: three sibling members / registrations with different default instances
example : runField (.scalar .int) 3 (.parents [.sc (.int 1), .sc (.int 5), .sc (.int 1)]) none
    = .ok [.sc (.int 1), .sc (.int 5), .sc (.int 1)] := by decide +kernel
example : runField (.list .int) 2 (.parents [.list [.int 1, .int 2], .list [.int 3]]) none
    = .ok [.list [.int 1, .int 2], .list [.int 3]] := by decide +kernel
-- regression (former D12, repaired by 8cfbe97): a list default of length n is NOT split
example : runField (.list .int) 2 (.field (some (.list [.int 1, .int 2]))) none
    = .ok [.list [.int 1, .int 2], .list [.int 1, .int 2]] :=
  c11_absent_container (.list .int) [.int 1, .int 2] 2 (by decide) rfl
example : runField (.tuple [.int, .int]) 2 (.field (some (.tuple [.int 3, .int 4]))) none
    = .ok [.tuple [.int 3, .int 4], .tuple [.int 3, .int 4]] :=
  c11_absent_container (.tuple [.int, .int]) [.int 3, .int 4] 2 (by decide) rfl
-- regression (former D13, repaired by 30c2aa6): bare items are one-element containers
example : runField (.list .int) 2 (.field none) (some [.bare "4".toList])
    = .ok [.list [.int 4], .list [.int 4]] := by decide_lit
example : runField (.list .int) 2 (.field none) (some [.bare "4".toList, .bare "5".toList])
    = .ok [.list [.int 4], .list [.int 5]] := by decide_lit
example : runField (.tuple [.int, .int]) 2 (.field none) (some [.bare "3".toList, .bare "4".toList])
    = .ok [.tuple [.int 3], .tuple [.int 4]] := by decide_lit
-- c11_whole_containers: mixed token shapes
example : runField (.list .str) 2 (.field none) (some [.bare "abc".toList, .spaced ["a".toList, "b".toList]])
    = .ok [.list [.str "abc".toList], .list [.str "a".toList, .str "b".toList]] := by decide_lit
-- runField_length / c11_n_ok: hypotheses satisfiable (three valid tokens of different shapes)
example : ∀ tok ∈ [Tok.bare "4".toList, .spaced ["5".toList, "6".toList], .bracket true []],
    ∃ v, parseTok (.list .int) tok = .ok v := by
  intro tok ht
  have hok : (parseTok (.list .int) tok).isOk = true := by revert tok; decide_lit
  revert hok
  cases parseTok (.list .int) tok with
  | ok v => exact fun _ => ⟨v, rfl⟩
  | error e => exact fun h => nomatch h
-- c11_one_enum / c11_one_bool / c11_enum_not_member
example : runField (.scalar (.enum ["LOW".toList, "MID".toList])) 3 (.field none) (some [.bare "MID".toList])
    = .ok (List.replicate 3 (.sc (.enum "MID".toList))) :=
  c11_one_enum _ _ 3 _ _ (by decide) rfl (.tail _ (.head _))
example : runField (.scalar .bool) 2 (.field none) (some [.bare "Yes".toList])
    = .ok [.sc (.bool true), .sc (.bool true)] := by decide_lit
example : runField (.scalar (.enum ["LOW".toList])) 2 (.field none) (some [.bare "low".toList])
    = .error (.exit2 .choice) := by decide_lit
-- parseContainerTok_alpha: hypotheses satisfiable (enum member names)
example : (∀ w ∈ ["RED".toList, "BLUE".toList], classify w = .alpha)
    ∧ convStrs (.enum ["RED".toList, "BLUE".toList]) ["RED".toList, "BLUE".toList]
        = .ok [.enum "RED".toList, .enum "BLUE".toList] := by decide_lit
-- c11_position_typed_partial: the exclusion leaves the homogeneous tuples, lists and Tuple[T, ...]
example : homogeneous (.tuple [.int, .int, .int]) = true ∧ homogeneous (.list .str) = true
    ∧ homogeneous (.tuple [.int, .str]) = false := by decide +kernel
-- runCase_two_given / runCase_two_one_absent / runCase_last_wins
example : runCase 2 [⟨.scalar .int, .field (some (.sc (.int 1)))⟩, ⟨.list .str, .field none⟩]
    [(1, [.bare "a".toList, .spaced ["b".toList, "c".toList]]), (0, [.bare "7".toList])]
    = .ok [[.sc (.int 7), .sc (.int 7)], [.list [.str "a".toList], .list [.str "b".toList, .str "c".toList]]] := by decide_lit
example : runCase 2 [⟨.scalar .int, .field none⟩] [(0, [.bare "1".toList]), (0, [.bare "2".toList, .bare "3".toList])]
    = .ok [[.sc (.int 2), .sc (.int 3)]] := by decide_lit
-- c11_registration_order_nested: P{m: C} at three destinations
example : mergeAll true (parentW "a".toList "a.m".toList [0])
    [parentW "b".toList "b.m".toList [1], parentW "c".toList "c.m".toList [2]]
    = .mk ["a".toList, "b".toList, "c".toList] []
        [.mk ["a.m".toList, "b.m".toList, "c.m".toList] [0, 1, 2] []] := by
  rfl_lit
-- c11_n_assigned: destination names paired with values
example : assign (mergeAll true (leafW "d0".toList []) [leafW "d1".toList [], leafW "d2".toList []]).dests
    [.sc (.int 5), .sc (.int 6), .sc (.int 7)]
    = [("d0".toList, .sc (.int 5)), ("d1".toList, .sc (.int 6)), ("d2".toList, .sc (.int 7))] := by decide_lit
-- c11_defaults_kept_partial: the exclusion leaves every registration pattern whose first one has an instance
example : (true = false ∨ ([0] : List Nat) ≠ []) := by decide +kernel
-- c11_registration_order: three registrations
example : (mergeAll true (leafW "a".toList []) ([("b".toList, []), ("c".toList, [])].map (fun r => leafW r.1 r.2))).dests
    = ["a".toList, "b".toList, "c".toList] := by decide_lit
-- nested members merged pair-wise (P{m:C} at two destinations, the P wrappers merge first)
example : DW.merge true (.mk ["a".toList] [] [leafW "a.m".toList [0]]) (.mk ["b".toList] [] [leafW "b.m".toList [1]])
    = .mk ["a".toList, "b".toList] [] [.mk ["a.m".toList, "b.m".toList] [0, 1] []] := by
  rfl_lit

end SpVerif.C11
