/-
  C03 — Every generated option addresses exactly one field of one destination.
  Theorems about `SpVerif.Model.Conflicts` (mirrors ConflictResolver, conflicts.py:65-315).
-/
import SpVerif.Model.Conflicts
import SpVerif.Model.BoolFlag
import SpVerif.Lemmas.Core
import SpVerif.Lemmas.Lit
namespace SpVerif.C03
open SpVerif

/-! ### `get_conflict` = none  ⇔  no option string has two owners -/

/-- a field record is never positional: its option strings are its `optionList`, sorted and
    without repetitions -/
theorem mem_opts {cfg : Cfg} {r : FieldRec} {s : Str} : s ∈ r.opts cfg ↔ s ∈ optionList cfg r.toFW :=
  show s ∈ sortByLen (dedup (optionList cfg r.toFW)) ↔ _ from
    (sortByLen_perm _).mem_iff.trans mem_dedup

theorem mem_owners {cfg : Cfg} {recs : List FieldRec} {s : Str} {i : Nat} :
    i ∈ owners cfg recs s ↔ ∃ r, recs[i]? = some r ∧ s ∈ r.opts cfg := by
  simp only [owners, List.mem_filter, List.mem_range]
  constructor
  · rintro ⟨hlt, hc⟩
    rw [List.getElem?_eq_getElem hlt] at hc ⊢
    exact ⟨_, rfl, List.contains_iff_mem.mp hc⟩
  · rintro ⟨r, hr, hs⟩
    rw [hr]
    exact ⟨(List.getElem?_eq_some_iff.mp hr).1, List.contains_iff_mem.mpr hs⟩

theorem owners_nodup (cfg : Cfg) (recs : List FieldRec) (s : Str) : (owners cfg recs s).Nodup :=
  List.Nodup.sublist List.filter_sublist List.nodup_range

theorem mem_allOpts {cfg : Cfg} {recs : List FieldRec} {s : Str} :
    s ∈ allOpts cfg recs ↔ ∃ i, i ∈ owners cfg recs s := by
  constructor
  · intro hs
    obtain ⟨r, hr, hsr⟩ := List.mem_flatMap.mp hs
    obtain ⟨i, hi⟩ := List.mem_iff_getElem?.mp hr
    exact ⟨i, mem_owners.mpr ⟨r, hi, hsr⟩⟩
  · rintro ⟨i, hi⟩
    obtain ⟨r, hr, hsr⟩ := mem_owners.mp hi
    exact List.mem_flatMap.mpr ⟨r, List.mem_iff_getElem?.mpr ⟨i, hr⟩, hsr⟩

/-- **No conflict ⇔ every option string has at most one owner** (also strings nobody offers). -/
theorem getConflict_eq_none_iff {cfg : Cfg} {recs : List FieldRec} :
    getConflict cfg recs = none ↔ ∀ s, (owners cfg recs s).length ≤ 1 := by
  fun_cases getConflict cfg recs with
  | case1 s hf => exact ⟨nofun, fun h => absurd (h s) (by simpa using List.find?_some hf)⟩
  | case2 hf =>
    refine ⟨fun _ s => ?_, fun _ => rfl⟩
    cases ho : owners cfg recs s with
    | nil => exact Nat.zero_le 1
    | cons i _ =>
      -- `s` has an owner, so `find?` has looked at it
      have hs : s ∈ allOpts cfg recs :=
        mem_allOpts.mpr ⟨i, by rw [ho]; exact List.mem_cons_self⟩
      rw [← ho]
      simpa using List.find?_eq_none.mp hf s hs

theorem getConflict_eq_some {cfg : Cfg} {recs : List FieldRec} {s : Str} {os : List Nat} :
    getConflict cfg recs = some (s, os) → os = owners cfg recs s ∧ 1 < os.length := by
  fun_cases getConflict cfg recs with
  | case1 s' hf =>
    rintro ⟨⟩
    exact ⟨rfl, by simpa using List.find?_some hf⟩
  | case2 => rintro ⟨⟩

theorem owners_eq_singleton {cfg : Cfg} {recs : List FieldRec} {s : Str} {i : Nat}
    (h : getConflict cfg recs = none) (hi : i ∈ owners cfg recs s) : owners cfg recs s = [i] := by
  have hle := getConflict_eq_none_iff.mp h s
  cases ho : owners cfg recs s with
  | nil => rw [ho] at hi; cases hi
  | cons a t =>
    rw [ho] at hi hle
    cases t with
    | nil => rw [List.mem_singleton.mp hi]
    | cons _ _ => exact absurd (Nat.le_of_succ_le_succ hle) (Nat.not_succ_le_zero _)

/-! ### the resolution loop -/

/-- the attempt counter is tested again at the head of the next iteration -/
theorem resolveLoop_ite (cfg : Cfg) (mode : CR) (fuel : Nat) (recs : List FieldRec) :
    (if fuel = 0 then .err .conflictResolutionError else resolveLoop cfg mode fuel recs) =
      resolveLoop cfg mode fuel recs := by
  cases fuel <;> rfl

theorem resolveLoop_inv (cfg : Cfg) (mode : CR) (P : List FieldRec → Prop)
    (hstep : ∀ recs s os recs', P recs → getConflict cfg recs = some (s, os) →
      fixStep cfg mode recs s os = .ok recs' → P recs')
    (fuel : Nat) (recs recs' : List FieldRec) (h0 : P recs)
    (h : resolveLoop cfg mode fuel recs = .ok recs') : P recs' ∧ getConflict cfg recs' = none := by
  revert h
  fun_induction resolveLoop cfg mode fuel recs with
  | case2 _ _ hc => rintro ⟨⟩; exact ⟨h0, hc⟩
  | case5 _ _ _ _ hc _ hf _ ih => exact ih (hstep _ _ _ _ h0 hc hf)
  | _ => rintro ⟨⟩

theorem resolve_ok_no_conflict {cfg : Cfg} {mode : CR} {recs recs' : List FieldRec}
    (h : resolve cfg mode recs = .ok recs') : getConflict cfg recs' = none :=
  (resolveLoop_inv cfg mode (fun _ => True) (fun _ _ _ _ _ _ _ => trivial) _ recs recs' trivial h).2

/-- **C03 (unique owner).** Whenever setup's conflict resolution returns — NONE, EXPLICIT or AUTO
    (under `always_merge` this loop only returns when there was no conflict at all, see
    `c03_merge_never_ok`; merging is C11's), for any forest, with or without user prefixes, after any
    number of rounds — every string belongs to at most one field wrapper. For the strings the parser
    actually offers the count is exactly one: `c03_exactly_one`, and the owner is the generating
    field: `c03_owner_eq`. That resolution does return `.ok` on forests with real clashes is shown by
    the `decide` examples at the end of the file and by `fixAuto_progress`. -/
theorem c03_unique (cfg : Cfg) (mode : CR) (recs recs' : List FieldRec)
    (h : resolve cfg mode recs = .ok recs') (s : Str) : (owners cfg recs' s).length ≤ 1 :=
  getConflict_eq_none_iff.mp (resolve_ok_no_conflict h) s

/-- **C03 (the owner is the generating field).** If the i-th field generates `s` after resolution,
    the table of owners of `s` is exactly `[i]`: looking `s` up reaches the i-th field and no
    other one. (That argparse's exact-match lookup stores into that action's own `dest`, i.e.
    "passing it changes that leaf and nothing else", is observed on the real parser by the probe
    parses of the harness — clause `exact-leaf` — and is not restated here.) -/
theorem c03_owner_eq (cfg : Cfg) (mode : CR) (recs recs' : List FieldRec)
    (h : resolve cfg mode recs = .ok recs') (i : Nat) (ri : FieldRec) (s : Str)
    (hi : recs'[i]? = some ri) (hs : s ∈ ri.opts cfg) : owners cfg recs' s = [i] :=
  owners_eq_singleton (resolve_ok_no_conflict h) (mem_owners.mpr ⟨ri, hi, hs⟩)

/-- **C03 (exactly one).** After a successful resolution (NONE / EXPLICIT / AUTO; `always_merge`
    never reaches `.ok` through this loop — see `c03_merge_never_ok`) every option string that the
    parser offers has *exactly* one owner. -/
theorem c03_exactly_one (cfg : Cfg) (mode : CR) (recs recs' : List FieldRec)
    (h : resolve cfg mode recs = .ok recs') (s : Str) (hs : s ∈ allOpts cfg recs') :
    (owners cfg recs' s).length = 1 := by
  obtain ⟨i, hi⟩ := mem_allOpts.mp hs
  rw [owners_eq_singleton (resolve_ok_no_conflict h) hi]
  rfl

/-- two different fields never share an option string after a successful resolution -/
theorem c03_disjoint (cfg : Cfg) (mode : CR) (recs recs' : List FieldRec)
    (h : resolve cfg mode recs = .ok recs') (i j : Nat) (ri rj : FieldRec)
    (hi : recs'[i]? = some ri) (hj : recs'[j]? = some rj) (hij : i ≠ j) (s : Str)
    (hsi : s ∈ ri.opts cfg) (hsj : s ∈ rj.opts cfg) : False := by
  have hoi := c03_owner_eq cfg mode recs recs' h i ri s hi hsi
  rw [c03_owner_eq cfg mode recs recs' h j rj s hj hsj] at hoi
  exact hij (List.cons.inj hoi).1.symm

/-- **NONE mode raises exactly when a clash exists** (and otherwise changes nothing). -/
theorem c03_none_iff (cfg : Cfg) (recs : List FieldRec) :
    (resolve cfg .none recs = .err .conflictResolutionError ↔ getConflict cfg recs ≠ none) ∧
    (resolve cfg .none recs = .ok recs ↔ getConflict cfg recs = none) := by
  unfold resolve maxAttempts
  rw [resolveLoop]
  cases getConflict cfg recs with
  | none => simp
  | some c => simp [fixStep]

/-- the loop of `Model/Conflicts` answers `.ok` under `always_merge` only when there was no
    conflict to begin with (merging is modelled in `Model/Merge`, property C11) -/
theorem c03_merge_never_ok (cfg : Cfg) (recs recs' : List FieldRec)
    (h : resolve cfg .always_merge recs = .ok recs') : recs' = recs ∧ getConflict cfg recs = none := by
  unfold resolve maxAttempts at h
  rw [resolveLoop] at h
  split at h
  · cases h; exact ⟨rfl, by assumption⟩
  · cases h

/-- everything about a field except its prefix -/
def strip (r : FieldRec) : FieldRec := { r with pref := [] }

theorem setPref_get_self (recs : List FieldRec) (i : Nat) (p : Str) :
    (setPref recs i p)[i]? = recs[i]?.map fun r => { r with pref := p } :=
  List.getElem?_modify_eq ..

theorem setPref_get_ne (recs : List FieldRec) {i j : Nat} (p : Str) (h : i ≠ j) :
    (setPref recs i p)[j]? = recs[j]? :=
  List.getElem?_modify_ne _ _ h

theorem setPref_strip (recs : List FieldRec) (i : Nat) (p : Str) :
    (setPref recs i p).map strip = recs.map strip := by
  unfold setPref
  induction recs generalizing i with
  | nil => rw [List.modify_nil]
  | cons r rs ih =>
    cases i with
    | zero => rw [List.modify_zero_cons]; rfl
    | succ n => rw [List.modify_succ_cons, List.map_cons, List.map_cons, ih]

theorem mem_setPref {recs : List FieldRec} {i : Nat} {p : Str} {r x : FieldRec}
    (hr : recs[i]? = some r) (h : x ∈ setPref recs i p) : x ∈ recs ∨ x = { r with pref := p } := by
  obtain ⟨j, hj⟩ := List.mem_iff_getElem?.mp h
  by_cases hij : i = j
  · subst hij
    rw [setPref_get_self, hr] at hj
    exact .inr (Option.some.inj hj).symm
  · rw [setPref_get_ne _ _ hij] at hj
    exact .inl (List.mem_iff_getElem?.mpr ⟨j, hj⟩)

/-- the prefixes that one round under `mode` can give to field `r`: AUTO puts one more word of the
    parent destination (counted from the right) and a dot in front of the old prefix, EXPLICIT
    writes the whole parent destination -/
def NewPref : CR → FieldRec → Str → Prop
  | .auto, r, p => ∃ w, (words r.pref).length < (words (r.parentDest ++ ['.'])).length ∧
      (words (r.parentDest ++ ['.']))[(words (r.parentDest ++ ['.'])).length - 1 -
        (words r.pref).length]? = some w ∧ p = w ++ '.' :: r.pref
  | .explicit, r, p => p = r.parentDest ++ ['.']
  | _, _, _ => False

theorem newPref_dot {mode : CR} {r : FieldRec} {p : Str} (h : NewPref mode r p) : '.' ∈ p := by
  cases mode with
  | auto =>
    obtain ⟨w, _, _, rfl⟩ := h
    exact List.mem_append_right w List.mem_cons_self
  | explicit =>
    cases h
    exact List.mem_append_right _ List.mem_cons_self
  | _ => cases h

/-- the three outcomes of `autoOne` (its `AssertionError` branch is dead) -/
theorem autoOne_cases (recs : List FieldRec) (i : Nat) (out : Except CRErr (List FieldRec)) :
    autoOne recs i = out →
    out = .error .conflictResolutionError ∨ (recs[i]? = none ∧ out = .ok recs) ∨
      ∃ r p, recs[i]? = some r ∧ NewPref .auto r p ∧ out = .ok (setPref recs i p) := by
  fun_cases autoOne recs i with
  | case1 hn => rintro rfl; exact .inr (.inl ⟨hn, rfl⟩)
  | case2 => rintro rfl; exact .inl rfl
  | case3 r hr _ _ _ _ hlt w hw =>
    rintro rfl; exact .inr (.inr ⟨r, _, hr, ⟨w, hlt, hw, rfl⟩, rfl⟩)
  | case4 _ _ _ _ _ _ hlt hnone =>
    -- the index is below the length
    exact absurd (List.getElem?_eq_none_iff.mp hnone) (Nat.not_le.mpr (Nat.lt_of_le_of_lt
      (Nat.sub_le _ _) (Nat.sub_one_lt (Nat.ne_of_gt (Nat.zero_lt_of_lt hlt)))))
  | case5 => rintro rfl; exact .inl rfl

/-- the result of `autoAll` is reached by `NewPref` rewrites of listed fields, stated as: whatever those rewrites
    preserve holds of it -/
theorem autoAll_cases (P : List FieldRec → Prop) (is : List Nat)
    (hset : ∀ l i r p, P l → i ∈ is → l[i]? = some r → NewPref .auto r p → P (setPref l i p))
    (recs : List FieldRec) (h0 : P recs) (out : Except CRErr (List FieldRec))
    (h : autoAll recs is = out) :
    out = .error .conflictResolutionError ∨ ∃ recs', out = .ok recs' ∧ P recs' := by
  induction is generalizing recs with
  | nil => exact .inr ⟨recs, h.symm, h0⟩
  | cons i is ih =>
    have ih := ih fun l j r p hl hj => hset l j r p hl (List.mem_cons_of_mem i hj)
    rw [autoAll] at h
    rcases autoOne_cases recs i _ rfl with h1 | ⟨_, h1⟩ | ⟨r, p, hr, hp, h1⟩ <;> rw [h1] at h
    · exact .inl h.symm
    · exact ih recs h0 h
    · exact ih _ (hset recs i r p h0 List.mem_cons_self hr hp) h

theorem insertByLevel_perm (recs : List FieldRec) (i : Nat) (l : List Nat) :
    (insertByLevel recs i l).Perm (i :: l) := by
  induction l with
  | nil => exact .refl _
  | cons j js ih =>
    rw [insertByLevel]
    split
    · exact .refl _
    · exact (ih.cons j).trans (.swap i j js)

theorem sortByLevel_perm (recs : List FieldRec) (l : List Nat) : (sortByLevel recs l).Perm l :=
  foldl_insert_perm (insertByLevel recs) (insertByLevel_perm recs) l []

theorem fixAuto_cases (recs : List FieldRec) (os : List Nat) (out : Except CRErr (List FieldRec))
    (h : fixAuto recs os = out) :
    (os.length < 2 ∧ out = .error .assertionError) ∨
      ∃ work, work ≠ [] ∧ (∀ i ∈ work, i ∈ os) ∧ autoAll recs work = out := by
  have hperm := sortByLevel_perm recs os
  unfold fixAuto at h
  rw [← hperm.length_eq]
  cases hs : sortByLevel recs os with
  | nil => rw [hs] at h; exact .inl ⟨Nat.zero_lt_two, h.symm⟩
  | cons a t =>
    cases t with
    | nil => rw [hs] at h; exact .inl ⟨Nat.le_refl 2, h.symm⟩
    | cons b rest =>
      rw [hs] at h hperm
      dsimp only at h
      rw [if_neg (show ¬(a :: b :: rest).length < 2 from Nat.not_lt.mpr (Nat.le_add_left 2 _))] at h
      right
      split at h
      · exact ⟨_, List.cons_ne_nil _ _, fun i hi => hperm.mem_iff.mp (List.mem_cons_of_mem a hi), h⟩
      · exact ⟨_, List.cons_ne_nil _ _, fun i hi => hperm.mem_iff.mp hi, h⟩

theorem fixExplicit_cases {cfg : Cfg} {recs : List FieldRec} {s : Str} {os : List Nat}
    (P : List FieldRec → Prop) (h0 : P recs)
    (hset : ∀ l i r, P l → i ∈ os → l[i]? = some r → P (setPref l i (r.parentDest ++ ['.'])))
    (out : Except CRErr (List FieldRec)) :
    fixExplicit cfg recs s os = out →
    out = .error .conflictResolutionError ∨ ∃ recs', out = .ok recs' ∧ P recs' := by
  unfold fixExplicit
  split
  · rintro rfl; exact .inl rfl
  · extract_lets new sub
    have hP : P new := List.foldlRecOn (motive := P) os _ h0 fun l hl i hi => by
      split
      · exact hset l i _ hl hi ‹_›
      · exact hl
    split
    · split
      · rintro rfl; exact .inl rfl
      · rintro rfl; exact .inr ⟨_, rfl, hP⟩
    · rintro rfl; exact .inr ⟨_, rfl, hP⟩

/-- **the round rule.** One round raises `ConflictResolutionError`, or trips an `assert` (only
    under `always_merge`, which this loop does not model, or with fewer than two owners), or returns
    a list reached by `NewPref` rewrites of owners of the conflicting option: whatever those rewrites
    preserve holds of the result -/
theorem fixStep_cases {cfg : Cfg} {mode : CR} {recs : List FieldRec} {s : Str} {os : List Nat}
    (P : List FieldRec → Prop) (h0 : P recs)
    (hset : ∀ l i r p, P l → i ∈ os → l[i]? = some r → NewPref mode r p → P (setPref l i p))
    (out : Except CRErr (List FieldRec)) (h : fixStep cfg mode recs s os = out) :
    out = .error .conflictResolutionError ∨
      (out = .error .assertionError ∧ (mode = .always_merge ∨ os.length < 2)) ∨
      ∃ recs', out = .ok recs' ∧ P recs' := by
  cases mode with
  | none => exact .inl h.symm
  | always_merge => exact .inr (.inl ⟨h.symm, .inl rfl⟩)
  | explicit =>
    exact (fixExplicit_cases P h0 (fun l i r hl hi hr => hset l i r _ hl hi hr rfl) _ h).imp_right .inr
  | auto =>
    rcases fixAuto_cases recs os _ h with ⟨hlt, he⟩ | ⟨work, _, hsub, hw⟩
    · exact .inr (.inl ⟨he, .inr hlt⟩)
    · exact (autoAll_cases P work (fun l i r p hl hi => hset l i r p hl (hsub i hi))
        recs h0 _ hw).imp_right .inr

theorem fixStep_induction {cfg : Cfg} {mode : CR} {recs recs' : List FieldRec} {s : Str}
    {os : List Nat} (P : List FieldRec → Prop) (h : fixStep cfg mode recs s os = .ok recs')
    (h0 : P recs)
    (hset : ∀ l i r p, P l → i ∈ os → l[i]? = some r → NewPref mode r p → P (setPref l i p)) :
    P recs' := by
  rcases fixStep_cases P h0 hset _ h with he | ⟨he, _⟩ | ⟨_, he, hp⟩
  · cases he
  · cases he
  · cases he; exact hp

/-! ### resolution only rewrites prefixes -/

theorem fixStep_strip {cfg : Cfg} {mode : CR} {recs recs' : List FieldRec} {s : Str}
    {os : List Nat} (h : fixStep cfg mode recs s os = .ok recs') :
    recs'.map strip = recs.map strip :=
  fixStep_induction (fun l => l.map strip = recs.map strip) h rfl
    fun l i _ p hl _ _ _ => (setPref_strip l i p).trans hl

/-- **C03 (frame).** Resolution never adds, drops, reorders or retargets a field: names,
    destinations (`parentDest`), nesting levels and aliases of the flat field list are unchanged —
    only prefixes move. So the i-th field wrapper after resolution still describes the i-th leaf
    (same `dest`). This is a statement about the wrapper list only; what *parsing* an option string
    does ("changes that leaf and nothing else") is not stated in Lean for C03 — together with
    `c03_owner_eq` (the lookup table sends a string to the single field that generated it) it is
    observed on the real parser, one parse per option string (oracle clause `exact-leaf`). -/
theorem c03_frame (cfg : Cfg) (mode : CR) (recs recs' : List FieldRec)
    (h : resolve cfg mode recs = .ok recs') : recs'.map strip = recs.map strip :=
  (resolveLoop_inv cfg mode (fun l => l.map strip = recs.map strip)
    (fun _ _ _ _ ha _ hf => (fixStep_strip hf).trans ha) _ recs recs' rfl h).1

theorem c03_frame_length (cfg : Cfg) (mode : CR) (recs recs' : List FieldRec)
    (h : resolve cfg mode recs = .ok recs') : recs'.length = recs.length := by
  have := congrArg List.length (c03_frame cfg mode recs recs' h)
  rwa [List.length_map, List.length_map] at this

/-- **C03 (a field that does not own the conflicting option keeps its name this round).** -/
theorem c03_round_untouched (cfg : Cfg) (mode : CR) (recs recs' : List FieldRec) (s : Str)
    (os : List Nat) (j : Nat) (hj : j ∉ os) (h : fixStep cfg mode recs s os = .ok recs') :
    recs'[j]? = recs[j]? :=
  fixStep_induction (fun l => l[j]? = recs[j]?) h rfl
    fun l _ _ p hl hi _ _ => (setPref_get_ne l p (ne_of_mem_of_not_mem hi hj)).trans hl

/-! ### totality: the resolver answers `ok` or `ConflictResolutionError`, nothing else -/

theorem resolveLoop_no_assert (cfg : Cfg) {mode : CR} (hm : mode ≠ .always_merge) (fuel : Nat)
    (recs : List FieldRec) : resolveLoop cfg mode fuel recs ≠ .err .assertionError := by
  fun_induction resolveLoop cfg mode fuel recs with
  | case3 _ _ s os hc e he =>
    rintro ⟨⟩
    rcases fixStep_cases (fun _ => True) trivial (fun _ _ _ _ _ _ _ _ => trivial) _ he with
      h | ⟨_, h | h⟩ | ⟨_, h, _⟩
    · cases h
    · exact hm h
    · -- `get_conflict` only reports options with at least two owners
      exact absurd (getConflict_eq_some hc).2 (Nat.not_lt.mpr (Nat.le_of_lt_succ h))
    · cases h
  | case5 _ _ _ _ _ _ _ _ ih => exact ih
  | _ => rintro ⟨⟩

/-- **C03 (total).** In the NONE / EXPLICIT / AUTO modes the resolver returns either a resolved
    forest or `ConflictResolutionError` — never the third outcome (`AssertionError`) that the code's
    internal `assert`s would produce. (True only after the repair of the "same user prefix under
    AUTO" defect, commit 00d3779; the 50-round limit is a `ConflictResolutionError` too.) -/
theorem c03_total (cfg : Cfg) (mode : CR) (hm : mode ≠ .always_merge) (recs : List FieldRec) :
    resolve cfg mode recs ≠ .err .assertionError :=
  resolveLoop_no_assert cfg hm maxAttempts recs

/-- the whole setup is `ok` or `ConflictResolutionError` provided no final option string collides
    with an option already on the parser (`-h`/`--help`) … -/
theorem c03_setup_total_partial (cfg : Cfg) (mode : CR) (hm : mode ≠ .always_merge)
    (reserved : List Str) (recs : List FieldRec)
    (hres : ∀ recs', resolve cfg mode recs = .ok recs' →
      (allOpts cfg recs').any (fun s => reserved.contains s) = false) :
    (∃ recs', setup cfg mode reserved recs = .ok recs') ∨
      setup cfg mode reserved recs = .conflictResolutionError := by
  unfold setup
  split
  · exact .inr rfl
  · exact absurd ‹_› (c03_total cfg mode hm recs)
  · rw [hres _ ‹_›]
    exact .inl ⟨_, rfl⟩

/-- … and the unrestricted statement is false today (open finding C03-help-clash): a field named
    `h` makes setup fail with `argparse.ArgumentError`. -/
def SetupTotal : Prop :=
  ∀ (cfg : Cfg) (mode : CR) (recs : List FieldRec), mode ≠ .always_merge →
    (∃ recs', setup cfg mode ["-h".toList, "--help".toList] recs = .ok recs') ∨
      setup cfg mode ["-h".toList, "--help".toList] recs = .conflictResolutionError
attribute [lit] SetupTotal

theorem not_total_of_argumentError {x : SetupOut} (hx : x = .argumentError) :
    ¬((∃ recs', x = .ok recs') ∨ x = .conflictResolutionError) := by
  subst hx
  rintro (⟨_, h⟩ | h) <;> cases h

theorem c03_setup_total_witness : ¬ SetupTotal := fun h =>
  not_total_of_argumentError (by decide_lit) (h ⟨.underscore, .flat, .default⟩ .auto
    [{ name := "h".toList, parentDest := "a".toList, level := 1, aliases := [], pref := [] }] (by decide))

/-! ### progress: a successful AUTO round makes prefixes strictly longer -/

theorem length_lt_append_cons {α : Type} (w : List α) (c : α) (l : List α) :
    l.length < (w ++ c :: l).length := by
  rw [List.length_append, List.length_cons]
  exact Nat.lt_of_lt_of_le (Nat.lt_succ_self _) (Nat.le_add_left _ _)

/-- **C03 (progress, one wrapper).** A successful `autoOne` on an existing field makes that
    field's prefix strictly longer (one more word and a dot in front of the old prefix). -/
theorem autoOne_progress (recs recs' : List FieldRec) (i : Nat) (r : FieldRec)
    (hi : recs[i]? = some r) (h : autoOne recs i = .ok recs') :
    ∃ r' w, recs'[i]? = some r' ∧ r'.pref = w ++ '.' :: r.pref ∧ r'.pref.length > r.pref.length ∧
      strip r' = strip r := by
  rcases autoOne_cases recs i _ h with he | ⟨hn, _⟩ | ⟨r0, p, hr0, ⟨w, _, _, rfl⟩, he⟩
  · cases he
  · rw [hn] at hi; cases hi
  · cases he
    cases hi.symm.trans hr0
    exact ⟨{ r with pref := w ++ '.' :: r.pref }, w, by rw [setPref_get_self, hi]; rfl, rfl,
      length_lt_append_cons w '.' r.pref, rfl⟩

/-- total length of all prefixes: the measure that AUTO rounds increase -/
def prefSum (recs : List FieldRec) : Nat := (recs.map (fun r => r.pref.length)).sum

theorem prefSum_setPref (recs : List FieldRec) (i : Nat) (r : FieldRec) (p : Str)
    (hi : recs[i]? = some r) : prefSum (setPref recs i p) + r.pref.length = prefSum recs + p.length := by
  unfold setPref prefSum
  induction recs generalizing i with
  | nil => cases hi
  | cons a as ih =>
    cases i with
    | zero =>
      cases hi
      exact (Nat.add_right_comm ..).trans ((congrArg (· + _) (Nat.add_comm ..)).trans
        (Nat.add_right_comm ..))
    | succ n => exact (Nat.add_assoc ..).trans ((congrArg (_ + ·) (ih n hi)).trans (Nat.add_assoc ..).symm)

theorem prefSum_lt_setPref {recs : List FieldRec} {i : Nat} {r : FieldRec} {p : Str}
    (hr : recs[i]? = some r) (hp : r.pref.length < p.length) :
    prefSum recs < prefSum (setPref recs i p) :=
  Nat.lt_of_add_lt_add_right (prefSum_setPref recs i r p hr ▸ Nat.add_lt_add_left hp _)

theorem newPref_length {r : FieldRec} {p : Str} (hp : NewPref .auto r p) :
    r.pref.length < p.length := by
  obtain ⟨w, _, _, rfl⟩ := hp
  exact length_lt_append_cons w '.' r.pref

/-- **C03 (progress, one AUTO fix).** `_fix_conflict_auto` on owners that exist either raises or
    strictly increases the total prefix length: a round never returns the forest unchanged, so the
    loop cannot spin on the same conflict. -/
theorem fixAuto_progress (recs recs' : List FieldRec) (os : List Nat)
    (hvalid : ∀ i ∈ os, i < recs.length) (h : fixAuto recs os = .ok recs') :
    prefSum recs < prefSum recs' := by
  rcases fixAuto_cases recs os _ h with ⟨_, he⟩ | ⟨work, hne, hsub, hw⟩
  · cases he
  · -- the first field worked on exists, so its rewrite is a real one; the others do not shorten
    obtain ⟨i, rest, rfl⟩ := List.exists_cons_of_ne_nil hne
    have hi := hvalid i (hsub i List.mem_cons_self)
    rw [autoAll] at hw
    rcases autoOne_cases recs i _ rfl with h1 | ⟨hn, _⟩ | ⟨r, p, hr, hp, h1⟩
    · rw [h1] at hw; cases hw
    · rw [List.getElem?_eq_getElem hi] at hn; cases hn
    · rw [h1] at hw
      rcases autoAll_cases (fun l => prefSum recs < prefSum l) rest
        (fun l j r' p' hl _ hr' hp' => Nat.lt_trans hl (prefSum_lt_setPref hr' (newPref_length hp')))
        _ (prefSum_lt_setPref hr (newPref_length hp)) _ hw with he | ⟨_, he, hlt⟩
      · cases he
      · cases he; exact hlt

/-- **C03 (progress, one round of the loop under AUTO).** -/
theorem c03_auto_round_progress (cfg : Cfg) (recs recs' : List FieldRec) (s : Str) (os : List Nat)
    (hc : getConflict cfg recs = some (s, os)) (h : fixStep cfg .auto recs s os = .ok recs') :
    prefSum recs < prefSum recs' := by
  refine fixAuto_progress recs recs' os (fun i hi => ?_) h
  rw [(getConflict_eq_some hc).1] at hi
  obtain ⟨r, hr, _⟩ := mem_owners.mp hi
  exact (List.getElem?_eq_some_iff.mp hr).1

/-! ### generated prefixes are dotted suffixes of the parent destination -/

theorem splitOnChar_parts_no_sep (sep : Char) (s : Str) : ∀ w ∈ splitOnChar sep s, sep ∉ w := by
  induction s with
  | nil => exact fun w hw => List.mem_singleton.mp hw ▸ List.not_mem_nil
  | cons c cs ih =>
    obtain ⟨p, ps, hs, e⟩ := splitOnChar_cons sep c cs
    rw [hs, List.forall_mem_cons] at ih
    rw [e]
    split
    · exact List.forall_mem_cons.mpr ⟨List.not_mem_nil, List.forall_mem_cons.mpr ih⟩
    next hc =>
      exact List.forall_mem_cons.mpr
        ⟨fun hm => (List.mem_cons.mp hm).elim (fun e => hc e.symm) ih.1, ih.2⟩

theorem words_spec (s : Str) : ∀ w ∈ words s, w ≠ [] ∧ '.' ∉ w := by
  intro w hw
  obtain ⟨hm, hne⟩ := List.mem_filter.mp hw
  refine ⟨?_, splitOnChar_parts_no_sep '.' s w hm⟩
  rintro rfl
  cases hne

/-- every word followed by a dot: `"".join(w + "." for w in ws)` -/
def sufPref (ws : List Str) : Str := ws.flatMap (fun w => w ++ ['.'])

theorem sufPref_cons (w : Str) (ws : List Str) : sufPref (w :: ws) = w ++ '.' :: sufPref ws := by
  rw [sufPref, List.flatMap_cons, List.append_assoc]
  rfl

theorem splitOnChar_sufPref (ws : List Str) (h : ∀ w ∈ ws, '.' ∉ w) :
    splitOnChar '.' (sufPref ws) = ws ++ [[]] := by
  induction ws with
  | nil => rfl
  | cons w ws ih =>
    rw [sufPref_cons, splitOnChar_append_sep_of_not_mem '.' w _ (h w List.mem_cons_self),
      ih fun v hv => h v (List.mem_cons_of_mem w hv)]
    rfl

theorem words_sufPref (ws : List Str) (h : ∀ w ∈ ws, w ≠ [] ∧ '.' ∉ w) : words (sufPref ws) = ws := by
  have hne : ws.filter (fun w => !w.isEmpty) = ws := List.filter_eq_self.mpr fun w hw => by
    cases w with
    | nil => exact absurd rfl (h [] hw).1
    | cons _ _ => rfl
  rw [words, splitOnChar_sufPref ws fun w hw => (h w hw).2, List.filter_append, hne]
  exact List.append_nil ws

/-- `explicit_prefix.split(".")` and `dest.split(".")` have the same non-empty words -/
theorem words_append_dot (s : Str) : words (s ++ ['.']) = words s := by
  rw [words, splitOnChar_append_sep, List.filter_append]
  exact List.append_nil _

/-- for a non-empty word list this is `".".join(ws) + "."` -/
theorem sufPref_eq_join (ws : List Str) (h : ws ≠ []) : sufPref ws = joinWith '.' ws ++ ['.'] := by
  induction ws with
  | nil => exact absurd rfl h
  | cons w ws ih =>
    cases ws with
    | nil => exact sufPref_cons w []
    | cons v vs =>
      rw [sufPref_cons, ih (List.cons_ne_nil v vs), joinWith_cons_cons, List.append_assoc]
      rfl

theorem sufPref_splitOnChar (s : Str) : sufPref (splitOnChar '.' s) = s ++ ['.'] := by
  rw [sufPref_eq_join _ (splitOnChar_ne_nil '.' s), joinWith_splitOnChar]

/-- **the suffix invariant**: the prefix is empty (`k` = number of words) or consists of the last
    words of the parent destination path, each followed by a dot:
    `pref = ".".join(words(parent.dest)[k:]) + "."`. -/
def SufInv (r : FieldRec) : Prop :=
  ∃ k, k ≤ (words r.parentDest).length ∧ r.pref = sufPref ((words r.parentDest).drop k)

/-- the readable form of `SufInv` -/
theorem sufInv_nil_or_join {r : FieldRec} (h : SufInv r) :
    r.pref = [] ∨ ∃ k, k < (words r.parentDest).length ∧
      r.pref = joinWith '.' ((words r.parentDest).drop k) ++ ['.'] := by
  obtain ⟨k, hk, hp⟩ := h
  rcases Nat.lt_or_ge k (words r.parentDest).length with hlt | hge
  · right
    refine ⟨k, hlt, ?_⟩
    rw [hp, sufPref_eq_join]
    exact fun e => Nat.not_le.mpr hlt (List.drop_eq_nil_iff.mp e)
  · left
    rw [hp, List.drop_eq_nil_of_le hge]
    rfl

theorem sufInv_of_nil {r : FieldRec} (h : r.pref = []) : SufInv r :=
  ⟨(words r.parentDest).length, Nat.le_refl _, by rw [h, List.drop_eq_nil_of_le (Nat.le_refl _)]; rfl⟩

/-- an AUTO rewrite extends a dotted suffix of the parent destination by the word before it -/
theorem sufInv_newPref {r : FieldRec} {p : Str} (hinv : SufInv r) (hp : NewPref .auto r p) :
    SufInv { r with pref := p } := by
  obtain ⟨k, hk, hpref⟩ := hinv
  obtain ⟨w, hlt, hw, rfl⟩ := hp
  -- the words already used are the last `j` of `k + j`, so the word taken is the `k`-th
  have hused : words r.pref = (words r.parentDest).drop k := by
    rw [hpref]
    exact words_sufPref _ fun v hv => words_spec r.parentDest v (List.mem_of_mem_drop hv)
  obtain ⟨j, hj⟩ := Nat.exists_eq_add_of_le hk
  rw [words_append_dot, hused, List.length_drop, hj, Nat.add_sub_cancel_left] at hlt hw
  cases k with
  | zero => exact absurd hlt (by rw [Nat.zero_add]; exact Nat.lt_irrefl j)
  | succ m =>
    rw [Nat.add_right_comm, Nat.add_sub_cancel, Nat.add_sub_cancel] at hw
    obtain ⟨hm, rfl⟩ := List.getElem?_eq_some_iff.mp hw
    refine ⟨m, Nat.le_of_lt hm, ?_⟩
    show (words r.parentDest)[m] ++ '.' :: r.pref = sufPref ((words r.parentDest).drop m)
    rw [List.drop_eq_getElem_cons hm, sufPref_cons, hpref]

theorem fixStep_forall {cfg : Cfg} {mode : CR} {recs recs' : List FieldRec} {s : Str}
    {os : List Nat} (Q : FieldRec → Prop)
    (hQ : ∀ r p, Q r → NewPref mode r p → Q { r with pref := p })
    (h0 : ∀ r ∈ recs, Q r) (h : fixStep cfg mode recs s os = .ok recs') : ∀ r ∈ recs', Q r :=
  fixStep_induction (fun l => ∀ r ∈ l, Q r) h h0 fun l _ r p hl _ hr hp x hx => by
    rcases mem_setPref hr hx with hm | rfl
    · exact hl x hm
    · exact hQ r p (hl r (List.mem_iff_getElem?.mpr ⟨_, hr⟩)) hp

/-- **C03 (dotted suffix, AUTO).** If every prefix is empty or a dotted suffix of its field's parent
    destination when resolution starts — in particular when there are no user prefixes — then so
    is every prefix when AUTO resolution returns, after any number of rounds: each generated flat
    name `pref ++ name` is a dotted suffix of the field's destination path `parentDest.name`. -/
theorem c03_suffix_auto (cfg : Cfg) (recs recs' : List FieldRec) (h0 : ∀ r ∈ recs, SufInv r)
    (h : resolve cfg .auto recs = .ok recs') : ∀ r ∈ recs', SufInv r :=
  (resolveLoop_inv cfg .auto (fun l => ∀ r ∈ l, SufInv r)
    (fun _ _ _ _ ha _ => fixStep_forall SufInv (fun _ _ => sufInv_newPref) ha)
    _ recs recs' h0 h).1

/-- the statement of the property text: without user prefixes, every AUTO prefix is empty or
    `".".join(last words of parent.dest) + "."` -/
theorem c03_suffix_auto_noprefix (cfg : Cfg) (recs recs' : List FieldRec)
    (h0 : ∀ r ∈ recs, r.pref = []) (h : resolve cfg .auto recs = .ok recs') (r : FieldRec)
    (hr : r ∈ recs') :
    r.pref = [] ∨ ∃ k, k < (words r.parentDest).length ∧
      r.pref = joinWith '.' ((words r.parentDest).drop k) ++ ['.'] :=
  sufInv_nil_or_join (c03_suffix_auto cfg recs recs' (fun r hr => sufInv_of_nil (h0 r hr)) h r hr)

/-! ### the 50-round limit matters only for forests that need that many rounds -/

theorem sufPref_sublist {l₁ l₂ : List Str} (h : l₁.Sublist l₂) : (sufPref l₁).Sublist (sufPref l₂) := by
  induction h with
  | slnil => exact .slnil
  | cons w _ ih =>
    rw [sufPref_cons]
    exact List.sublist_append_of_sublist_right (ih.cons '.')
  | cons_cons w _ ih =>
    rw [sufPref_cons, sufPref_cons]
    exact (List.Sublist.refl w).append (ih.cons_cons '.')

/-- under the suffix invariant a prefix is never longer than the parent destination plus its dot -/
theorem sufInv_pref_le {r : FieldRec} (h : SufInv r) : r.pref.length ≤ r.parentDest.length + 1 := by
  obtain ⟨k, _, hp⟩ := h
  -- the words kept are some of the pieces of the destination
  have := (sufPref_sublist ((List.drop_sublist k (words r.parentDest)).trans
    List.filter_sublist)).length_le
  rwa [← hp, sufPref_splitOnChar, List.length_append] at this

/-- the ceiling of `prefSum`: total length of the explicit prefixes -/
def destSum (recs : List FieldRec) : Nat := (recs.map (fun r => r.parentDest.length + 1)).sum

theorem prefSum_le_destSum (recs : List FieldRec) (h : ∀ r ∈ recs, SufInv r) :
    prefSum recs ≤ destSum recs := by
  unfold prefSum destSum
  induction recs with
  | nil => exact Nat.le_refl _
  | cons a as ih =>
    exact Nat.add_le_add (sufInv_pref_le (h a List.mem_cons_self))
      (ih fun r hr => h r (List.mem_cons_of_mem a hr))

theorem destSum_of_strip {a b : List FieldRec} (h : b.map strip = a.map strip) :
    destSum b = destSum a := by
  have key : ∀ l : List FieldRec, destSum l = destSum (l.map strip) := fun l => by
    rw [destSum, destSum, List.map_map]
    rfl
  rw [key b, key a, h]

/-- **C03 (the fuel is not what stops AUTO).** Without user prefixes (more generally under the
    suffix invariant) the rounds of AUTO resolution are bounded by `destSum - prefSum` — every
    successful round strictly lengthens prefixes (`c03_auto_round_progress`) and prefixes cannot
    outgrow the explicit ones (`sufInv_pref_le`) — so any two fuel values above that bound give the
    same answer: the loop ends by resolving or by a genuine `ConflictResolutionError`, not by the
    attempt counter. -/
theorem c03_auto_fuel_irrelevant (cfg : Cfg) (n m : Nat) (recs : List FieldRec)
    (h0 : ∀ r ∈ recs, SufInv r) (hn : destSum recs < prefSum recs + n)
    (hm : destSum recs < prefSum recs + m) :
    resolveLoop cfg .auto n recs = resolveLoop cfg .auto m recs := by
  have hle := prefSum_le_destSum recs h0
  induction n generalizing recs m with
  | zero => exact absurd (Nat.lt_of_lt_of_le hn hle) (Nat.lt_irrefl _)
  | succ n ih =>
    cases m with
    | zero => exact absurd (Nat.lt_of_lt_of_le hm hle) (Nat.lt_irrefl _)
    | succ m =>
      rw [resolveLoop, resolveLoop]
      split
      · rfl
      · split
        · rfl
        · rename_i s os hc _ r2 hf
          have hsuf := fixStep_forall SufInv (fun _ _ => sufInv_newPref) h0 hf
          have hprog := c03_auto_round_progress cfg recs r2 s os hc hf
          rw [← destSum_of_strip (fixStep_strip hf)] at hn hm
          -- the ceiling is the same, the prefixes are longer: one round less is needed
          have step : ∀ k, destSum r2 < prefSum recs + (k + 1) → destSum r2 < prefSum r2 + k :=
            fun k hk => Nat.lt_of_le_of_lt (Nat.le_of_lt_succ hk) (Nat.add_lt_add_right hprog k)
          rw [resolveLoop_ite, resolveLoop_ite]
          exact ih m r2 hsuf (step n hn) (step m hm) (prefSum_le_destSum r2 hsuf)

/-- in particular the limit of 50 attempts only matters for forests whose explicit prefixes have
    more than 50 characters left to add (such forests exist: a class of 50 fields registered twice
    — the harness runs 49 / 50 / 51 fields against the real code) -/
theorem c03_auto_limit_only_when_needed (cfg : Cfg) (recs : List FieldRec)
    (h0 : ∀ r ∈ recs, r.pref = []) (hsmall : destSum recs < maxAttempts) (m : Nat)
    (hm : maxAttempts ≤ m) : resolve cfg .auto recs = resolveLoop cfg .auto m recs :=
  c03_auto_fuel_irrelevant cfg _ m recs (fun r hr => sufInv_of_nil (h0 r hr))
    (Nat.lt_of_lt_of_le hsmall (Nat.le_add_left _ _))
    (Nat.lt_of_lt_of_le hsmall (Nat.le_trans hm (Nat.le_add_left _ _)))

/-! ### EXPLICIT: a prefixed field carries the full path -/

def FullInv (r : FieldRec) : Prop := r.pref = [] ∨ r.pref = r.parentDest ++ ['.']

/-- **C03 (full path, EXPLICIT).** Without user prefixes, every prefix after EXPLICIT resolution is
    empty or the field's whole parent destination followed by a dot: a renamed field is addressed
    by its full destination path. -/
theorem c03_full_explicit (cfg : Cfg) (recs recs' : List FieldRec) (h0 : ∀ r ∈ recs, r.pref = [])
    (h : resolve cfg .explicit recs = .ok recs') :
    ∀ r ∈ recs', r.pref = [] ∨ r.pref = r.parentDest ++ ['.'] :=
  (resolveLoop_inv cfg .explicit (fun l => ∀ r ∈ l, FullInv r)
    (fun _ _ _ _ ha _ => fixStep_forall (mode := .explicit) FullInv (fun _ _ _ hp => .inr hp) ha)
    _ recs recs' (fun r hr => .inl (h0 r hr)) h).1

/-! ### a field that clashes with nothing keeps its bare name -/

theorem dot_mem_dashify (s : Str) (h : '.' ∈ s) : '.' ∈ dashify s :=
  List.mem_map.mpr ⟨'.', h, by decide⟩

theorem aliasPair_dotted (pref a : Str) (hp : '.' ∈ pref) : '.' ∈ (aliasPair pref a).2 := by
  unfold aliasPair
  split <;> exact List.mem_append_left _ hp

theorem basePairs_dotted (cfg : Cfg) (hflat : cfg.gen = .flat) (fw : FW) (hp : '.' ∈ fw.pref) :
    ∀ p ∈ basePairs cfg fw, '.' ∈ p.2 := by
  have hc : ∀ c ∈ candidates cfg fw, '.' ∈ c := by
    simp only [candidates, hflat, List.forall_mem_singleton, flatCand]
    split
    · exact dot_mem_dashify _ (List.mem_append_left _ hp)
    · exact List.mem_append_left _ hp
  simp only [basePairs, List.forall_mem_append, List.forall_mem_map]
  refine ⟨⟨hc, ?_⟩, fun a _ => aliasPair_dotted fw.pref a hp⟩
  split
  · exact List.forall_mem_map.mpr hc
  · exact fun _ h => (List.not_mem_nil h).elim

theorem opts_dotted (cfg : Cfg) (hflat : cfg.gen = .flat) (r : FieldRec) (hp : '.' ∈ r.pref) :
    ∀ s ∈ r.opts cfg, '.' ∈ s := by
  intro s hs
  have hs : s ∈ (basePairs cfg r.toFW ++ extraPairs cfg r.toFW).map fun p => p.1 ++ p.2 :=
    mem_opts.mp hs
  obtain ⟨p, hp', rfl⟩ := List.mem_map.mp hs
  refine List.mem_append_right _ ?_
  rcases List.mem_append.mp hp' with hb | he
  · exact basePairs_dotted cfg hflat r.toFW hp p hb
  · unfold extraPairs at he
    split at he
    · obtain ⟨q, hq, rfl⟩ := List.mem_map.mp he
      exact dot_mem_dashify _ (basePairs_dotted cfg hflat r.toFW hp q (List.mem_filter.mp hq).1)
    · cases he

/-- each field is as it was in `a`, or its prefix contains a dot -/
def StepDot (a b : List FieldRec) : Prop :=
  ∀ i : Nat, b[i]? = a[i]? ∨ ∃ r : FieldRec, b[i]? = some r ∧ '.' ∈ r.pref

theorem stepDot_refl (a : List FieldRec) : StepDot a a := fun _ => .inl rfl

theorem stepDot_trans {a b c : List FieldRec} (h1 : StepDot a b) (h2 : StepDot b c) : StepDot a c := by
  intro i
  rcases h2 i with h | h
  · rcases h1 i with h' | ⟨r, hr, hd⟩
    · exact .inl (h.trans h')
    · exact .inr ⟨r, h.trans hr, hd⟩
  · exact .inr h

theorem setPref_stepDot {recs : List FieldRec} {i : Nat} {r : FieldRec} {p : Str}
    (hr : recs[i]? = some r) (hp : '.' ∈ p) : StepDot recs (setPref recs i p) := by
  intro j
  by_cases h : i = j
  · subst h
    exact .inr ⟨{ r with pref := p }, by rw [setPref_get_self, hr]; rfl, hp⟩
  · exact .inl (setPref_get_ne recs p h)

theorem fixStep_stepDot {cfg : Cfg} {mode : CR} {recs recs' : List FieldRec} {s : Str}
    {os : List Nat} (h : fixStep cfg mode recs s os = .ok recs') : StepDot recs recs' :=
  fixStep_induction (StepDot recs) h (stepDot_refl recs)
    fun _ _ _ _ hl _ hr hp => stepDot_trans hl (setPref_stepDot hr (newPref_dot hp))

/-- **C03 (every rewritten prefix is dotted).** After resolution each field is exactly as it was
    registered, or its prefix contains a `.` (any mode, any number of rounds). -/
theorem c03_stepDot (cfg : Cfg) (mode : CR) (recs recs' : List FieldRec)
    (h : resolve cfg mode recs = .ok recs') : StepDot recs recs' :=
  (resolveLoop_inv cfg mode (StepDot recs)
    (fun _ _ _ _ ha _ hf => stepDot_trans ha (fixStep_stepDot hf)) _ recs recs'
    (stepDot_refl recs) h).1

/-- without user prefixes every final prefix is empty or contains a dot -/
theorem c03_pref_nil_or_dotted (cfg : Cfg) (mode : CR) (recs recs' : List FieldRec)
    (h0 : ∀ r ∈ recs, r.pref = []) (h : resolve cfg mode recs = .ok recs') :
    ∀ r ∈ recs', r.pref = [] ∨ '.' ∈ r.pref := by
  intro r hr
  obtain ⟨i, hi⟩ := List.mem_iff_getElem?.mp hr
  rcases c03_stepDot cfg mode recs recs' h i with he | ⟨r', hr', hd⟩
  · exact .inl (h0 r (List.mem_iff_getElem?.mpr ⟨i, he ▸ hi⟩))
  · cases hi.symm.trans hr'
    exact .inr hd

/-- **C03 (bare name).** Under FLAT generation (the default), in any mode and for any forest: a
    field whose option strings are dot-free and which — before resolution — is the only owner of
    each of them is never part of a conflict in any round, so it comes out of resolution exactly as
    it went in: same prefix, hence the same (bare) option strings. -/
theorem c03_bare (cfg : Cfg) (hflat : cfg.gen = .flat) (mode : CR) (recs recs' : List FieldRec)
    (h : resolve cfg mode recs = .ok recs') (j : Nat) (rj : FieldRec) (hj : recs[j]? = some rj)
    (hdot : ∀ s ∈ rj.opts cfg, '.' ∉ s) (hun : ∀ s ∈ rj.opts cfg, owners cfg recs s = [j]) :
    recs'[j]? = some rj := by
  refine (resolveLoop_inv cfg mode (fun l => l[j]? = some rj ∧ StepDot recs l) ?_
    _ recs recs' ⟨hj, stepDot_refl recs⟩ h).1.1
  rintro a s os b ⟨haj, had⟩ hc hf
  -- `j` does not own the conflicting option `s`: else every owner of `s` would be `j` (an unchanged
  -- one owned `s` from the start, a rewritten one is dotted), and a conflict has two owners
  have hno : j ∉ os := by
    obtain ⟨hos, hlen⟩ := getConflict_eq_some hc
    rw [hos] at hlen ⊢
    intro hjo
    obtain ⟨r, hr, hsr⟩ := mem_owners.mp hjo
    cases haj.symm.trans hr
    have hall : owners cfg a s ⊆ [j] := by
      intro i hi
      obtain ⟨ri, hri, hsi⟩ := mem_owners.mp hi
      rcases had i with he | ⟨r', hr', hd⟩
      · have := mem_owners.mpr ⟨ri, he ▸ hri, hsi⟩
        rwa [hun s hsr] at this
      · cases hri.symm.trans hr'
        exact absurd (opts_dotted cfg hflat _ hd s hsi) (hdot s hsr)
    exact absurd hlen (Nat.not_lt.mpr ((owners_nodup cfg a s).length_le_of_subset hall))
  exact ⟨(c03_round_untouched cfg mode a b s os j hno hf).trans haj,
    stepDot_trans had (fixStep_stepDot hf)⟩

/-! ### bool leaves: their negative flags are invisible to the resolver (open finding C03-neg-clash)

  `Model/Conflicts.setup` knows the option strings `FieldWrapper.option_strings` returns. A `bool`
  leaf registers more: `BooleanOptionalAction.__init__` (custom_actions.py:97-126) appends one
  `--no<x>` string per positive string when `add_argument` runs, *after* resolution, so
  `get_conflict` never sees them. The definitions below extend `setup` locally (they are not part
  of the driver; the harness observes the same behaviour on the real parser). -/

/-- negative option strings derived from the final positive ones (default `negative_prefix="--no"`,
    no `negative_option`) -/
def negOpts (cfg : Cfg) (r : FieldRec) : List Str :=
  (negStrings (r.opts cfg) "--no".toList none r.pref).getD []
attribute [lit] negOpts

/-- every string the `add_argument` call of one field registers -/
def addedOpts (cfg : Cfg) (r : FieldRec) (isBool : Bool) : List Str :=
  r.opts cfg ++ (if isBool then negOpts cfg r else [])

/-- the `add_argument` calls in field order (argparse `_check_conflict` with the default
    `conflict_handler="error"`): `false` = some string of a new action is already registered -/
def addAll (cfg : Cfg) : List Str → List (FieldRec × Bool) → Bool
  | _, [] => true
  | taken, (r, b) :: rest =>
    if (addedOpts cfg r b).any (fun s => taken.contains s) then false
    else addAll cfg (taken ++ addedOpts cfg r b) rest

/-- `_preprocessing` for a forest whose i-th leaf is a `bool` iff `bools[i]` -/
def setupNeg (cfg : Cfg) (mode : CR) (reserved : List Str) (recs : List FieldRec)
    (bools : List Bool) : SetupOut :=
  match resolve cfg mode recs with
  | .err .conflictResolutionError => .conflictResolutionError
  | .err .assertionError => .assertionError
  | .ok recs' => if addAll cfg reserved (recs'.zip bools) then .ok recs' else .argumentError

/-- full statement: set-up of a forest with bool leaves succeeds or raises ConflictResolutionError -/
def NegTotal : Prop :=
  ∀ (cfg : Cfg) (mode : CR) (recs : List FieldRec) (bools : List Bool), mode ≠ .always_merge →
    (∃ recs', setupNeg cfg mode [] recs bools = .ok recs') ∨
      setupNeg cfg mode [] recs bools = .conflictResolutionError

/-- … false today (open finding C03-neg-clash): `class A: x: bool; nox: int` at dest `a` — the
    negative flag `--nox` of `x` is the option string of `nox`; the resolver sees no conflict and
    `add_argument` raises `argparse.ArgumentError` (even without the built-in help option). -/
theorem c03_neg_clash_witness : ¬ NegTotal := fun h =>
  not_total_of_argumentError (by decide_lit) (h ⟨.underscore, .flat, .default⟩ .auto
    [{ name := "x".toList, parentDest := "a".toList, level := 1, aliases := [], pref := [] },
     { name := "nox".toList, parentDest := "a".toList, level := 1, aliases := [], pref := [] }]
    [true, false] (by decide))

/-- the named exclusion: no string registered by a field's `add_argument` is already on the parser -/
def NoAddClash (cfg : Cfg) (mode : CR) (reserved : List Str) (recs : List FieldRec)
    (bools : List Bool) : Prop :=
  ∀ recs', resolve cfg mode recs = .ok recs' → addAll cfg reserved (recs'.zip bools) = true

theorem c03_neg_total_partial (cfg : Cfg) (mode : CR) (hm : mode ≠ .always_merge)
    (reserved : List Str) (recs : List FieldRec) (bools : List Bool)
    (hfree : NoAddClash cfg mode reserved recs bools) :
    (∃ recs', setupNeg cfg mode reserved recs bools = .ok recs') ∨
      setupNeg cfg mode reserved recs bools = .conflictResolutionError := by
  unfold setupNeg
  split
  · exact .inr rfl
  · exact absurd ‹_› (c03_total cfg mode hm recs)
  · rw [hfree _ ‹_›]
    exact .inl ⟨_, rfl⟩

/-- the exclusion is satisfiable by a forest with a bool leaf registered twice (its negative flags
    `--a.nox` / `--b.nox` follow the resolved prefixes) -/
example : setupNeg ⟨.underscore, .flat, .default⟩ .auto ["-h".toList, "--help".toList]
    [{ name := "x".toList, parentDest := "a".toList, level := 1, aliases := [], pref := [] },
     { name := "x".toList, parentDest := "b".toList, level := 1, aliases := [], pref := [] }]
    [true, true] =
    .ok [{ name := "x".toList, parentDest := "a".toList, level := 1, aliases := [], pref := "a.".toList },
         { name := "x".toList, parentDest := "b".toList, level := 1, aliases := [], pref := "b.".toList }] := by
  decide_lit

example : negOpts ⟨.underscore, .flat, .default⟩
    { name := "x".toList, parentDest := "a".toList, level := 1, aliases := [], pref := "a.".toList } =
    ["--a.nox".toList, "--a.nox".toList] := by decide_lit

/-! ### non-vacuity of the theorems above -/

def cfgD : Cfg := ⟨.underscore, .flat, .default⟩

/-- `Top{y: Mid{y: Leaf{v}}}` registered at `x` and at `z`: leaves `x.y.y.v`, `z.y.y.v` -/
def deep2 : List FieldRec :=
  [{ name := "v".toList, parentDest := "x.y.y".toList, level := 3, aliases := [], pref := [] },
   { name := "v".toList, parentDest := "z.y.y".toList, level := 3, aliases := [], pref := [] }]
attribute [lit] deep2

/-- AUTO adds one word per round, so three rounds are needed here; the code raises after its last
    attempt whether or not a conflict is left, so three attempts are not enough … -/
example : resolveLoop cfgD .auto 3 deep2 = .err .conflictResolutionError := by decide_lit
/-- … and resolution does succeed, with the full paths as prefixes (so `c03_unique` etc. are not
    vacuous: a model whose `fixAuto` always failed would not pass this). -/
example : resolve cfgD .auto deep2 =
    .ok [{ name := "v".toList, parentDest := "x.y.y".toList, level := 3, aliases := [], pref := "x.y.y.".toList },
         { name := "v".toList, parentDest := "z.y.y".toList, level := 3, aliases := [], pref := "z.y.y.".toList }] := by
  decide_lit
/-- EXPLICIT resolves the same forest in a single round -/
example : resolveLoop cfgD .explicit 2 deep2 =
    .ok [{ name := "v".toList, parentDest := "x.y.y".toList, level := 3, aliases := [], pref := "x.y.y.".toList },
         { name := "v".toList, parentDest := "z.y.y".toList, level := 3, aliases := [], pref := "z.y.y.".toList }] := by
  decide_lit
/-- a clash between a field and a deeper one: the least nested keeps its bare name, one round -/
example : resolveLoop cfgD .auto 2
    [{ name := "xx".toList, parentDest := "a".toList, level := 1, aliases := [], pref := [] },
     { name := "xx".toList, parentDest := "a.b".toList, level := 2, aliases := [], pref := [] },
     { name := "xx".toList, parentDest := "a.c.d".toList, level := 3, aliases := [], pref := [] }] =
    .ok [{ name := "xx".toList, parentDest := "a".toList, level := 1, aliases := [], pref := [] },
         { name := "xx".toList, parentDest := "a.b".toList, level := 2, aliases := [], pref := "b.".toList },
         { name := "xx".toList, parentDest := "a.c.d".toList, level := 3, aliases := [], pref := "d.".toList }] := by
  decide_lit

/-- hypotheses of `fixAuto_progress` / `autoOne_progress` on a real conflict -/
example : prefSum deep2 < prefSum
    [{ name := "v".toList, parentDest := "x.y.y".toList, level := 3, aliases := [], pref := "y.".toList },
     { name := "v".toList, parentDest := "z.y.y".toList, level := 3, aliases := [], pref := "y.".toList }] :=
  fixAuto_progress deep2 _ [0, 1] (by decide) (by rfl_lit)

/-- hypotheses of `c03_auto_limit_only_when_needed` -/
example : destSum deep2 < maxAttempts := by decide_lit

/-- hypotheses of `c03_suffix_auto_noprefix` / `c03_full_explicit` / `c03_pref_nil_or_dotted` -/
example : ∀ r ∈ deep2, r.pref = [] := by decide
example : SufInv ⟨"v".toList, "x.y.y".toList, 3, [], "y.y.".toList⟩ := ⟨1, by decide_lit⟩

/-- `x` at `a`, `x` and `yy` at `b`: `yy` clashes with nothing -/
def bare3 : List FieldRec :=
  [{ name := "x".toList, parentDest := "a".toList, level := 1, aliases := [], pref := [] },
   { name := "x".toList, parentDest := "b".toList, level := 1, aliases := [], pref := [] },
   { name := "yy".toList, parentDest := "b".toList, level := 1, aliases := ["-q".toList], pref := [] }]
attribute [lit] bare3

/-- hypotheses of `c03_bare` on a forest that does need resolution -/
example : ∃ recs', resolve cfgD .auto bare3 = .ok recs' ∧ recs' ≠ bare3 ∧ recs'[2]? = bare3[2]? := by
  have h : resolve cfgD .auto bare3 =
      .ok [{ name := "x".toList, parentDest := "a".toList, level := 1, aliases := [], pref := "a.".toList },
           { name := "x".toList, parentDest := "b".toList, level := 1, aliases := [], pref := "b.".toList },
           { name := "yy".toList, parentDest := "b".toList, level := 1, aliases := ["-q".toList], pref := [] }] := by
    decide_lit
  exact ⟨_, h, by decide +kernel,
    c03_bare cfgD rfl .auto bare3 _ h 2 _ rfl (by decide +kernel) (by decide +kernel)⟩

/-- hypotheses of `c03_exactly_one` / `c03_owner_eq` -/
example : owners cfgD
    [{ name := "x".toList, parentDest := "a".toList, level := 1, aliases := [], pref := "a.".toList },
     { name := "x".toList, parentDest := "b".toList, level := 1, aliases := [], pref := "b.".toList }]
    "--b.x".toList = [1] := by decide +kernel

/-! a forest with a real clash that AUTO resolves, and one that NONE rejects -/
example : resolve ⟨.underscore, .flat, .default⟩ .auto
    [{ name := "x".toList, parentDest := "a".toList, level := 1, aliases := [], pref := [] },
     { name := "x".toList, parentDest := "b".toList, level := 1, aliases := [], pref := [] }] =
    .ok [{ name := "x".toList, parentDest := "a".toList, level := 1, aliases := [], pref := "a.".toList },
         { name := "x".toList, parentDest := "b".toList, level := 1, aliases := [], pref := "b.".toList }] := by
  decide_lit

example : resolve ⟨.underscore, .flat, .default⟩ .none
    [{ name := "x".toList, parentDest := "a".toList, level := 1, aliases := [], pref := [] },
     { name := "x".toList, parentDest := "b".toList, level := 1, aliases := [], pref := [] }] =
    .err .conflictResolutionError := by decide +kernel

end SpVerif.C03
