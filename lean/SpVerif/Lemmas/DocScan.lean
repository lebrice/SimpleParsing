/-
  Lemmas about `SpVerif.Model.DocScan`: the string primitives, the line classifiers, the tokenizer
  pass, and what they do on the lines of a rendered block (used by Props/C19.lean).
-/
import SpVerif.Model.DocScan
import SpVerif.Lemmas.BoolFlag
namespace SpVerif.DocScan
open SpVerif SpVerif.BoolFlagL

/-! ### before / after -/

theorem mem_before {x c : Char} {s : Str} (h : c ∈ before x s) : c ∈ s := by
  induction s with
  | nil => simp [before] at h
  | cons y ys ih =>
    simp only [before] at h
    split at h
    · simp at h
    · rcases List.mem_cons.mp h with h | h
      · simp [h]
      · exact List.mem_cons_of_mem _ (ih h)

theorem before_append_left {x : Char} {a : Str} (b : Str) (h : x ∉ a) :
    before x (a ++ b) = a ++ before x b := by
  induction a with
  | nil => rfl
  | cons y ys ih =>
    simp [before, (List.ne_of_not_mem_cons h).symm, ih (List.not_mem_of_not_mem_cons h)]

theorem before_skip {x c : Char} {a : Str} (b : Str) (h : x ∉ a) (hc : c ≠ x) :
    before x (a ++ c :: b) = a ++ c :: before x b := by
  rw [before_append_left _ h, before, if_neg hc]

theorem before_stop {x : Char} {a : Str} (b : Str) (h : x ∉ a) : before x (a ++ x :: b) = a := by
  rw [before_append_left _ h, before, if_pos rfl, List.append_nil]

theorem before_of_not_mem {x : Char} {a : Str} (h : x ∉ a) : before x a = a := by
  have := before_append_left (x := x) [] h
  simpa [before] using this

theorem after_stop {x : Char} {a : Str} (b : Str) (h : x ∉ a) : after x (a ++ x :: b) = b := by
  induction a with
  | nil => simp [after]
  | cons y ys ih =>
    simp [after, (List.ne_of_not_mem_cons h).symm, ih (List.not_mem_of_not_mem_cons h)]

theorem contains_false_iff {c : Char} {s : Str} : s.contains c = false ↔ c ∉ s := by
  rw [← Bool.not_eq_true, List.contains_iff_mem]

theorem before_append_of_mem {x : Char} {P : Str} (S : Str) (h : x ∈ P) :
    before x (P ++ S) = before x P := by
  induction P with
  | nil => simp at h
  | cons y ys ih =>
    by_cases hy : y = x
    · simp [before, hy]
    · simp [before, hy, ih ((List.mem_cons.mp h).resolve_left (Ne.symm hy))]

theorem mem_before_prefix {x c : Char} {P : Str} (S : Str) (h : c ∈ before x P) :
    c ∈ before x (P ++ S) := by
  by_cases hx : x ∈ P
  · rw [before_append_of_mem _ hx]; exact h
  · rw [before_append_left _ hx]
    exact List.mem_append_left _ (mem_before h)

theorem mem_before_append {x c : Char} {A B : Str} (h : c ∈ before x (A ++ B)) :
    c ∈ A ∨ c ∈ before x B := by
  by_cases hx : x ∈ A
  · rw [before_append_of_mem _ hx] at h; exact Or.inl (mem_before h)
  · rw [before_append_left _ hx] at h; exact List.mem_append.mp h

/-! ### whitespace stripping -/

def allSpace (s : Str) : Prop := ∀ c ∈ s, isSpace c = true

theorem not_mem_allSpace {ws : Str} (h : allSpace ws) {c : Char} (hc : isSpace c = false) : c ∉ ws := by
  intro hm; rw [h c hm] at hc; cases hc

theorem lstripWs_mid {c : Char} (u v : Str) (h : isSpace c = false) :
    lstripWs (u ++ c :: v) = lstripWs u ++ c :: v := by
  induction u with
  | nil => simp [lstripWs, h]
  | cons y ys ih =>
    by_cases hy : isSpace y = true
    · simp [lstripWs, hy, ih]
    · simp [lstripWs, hy]

theorem mem_lstripWs {c : Char} {s : Str} (h : c ∈ lstripWs s) : c ∈ s := by
  induction s with
  | nil => simp [lstripWs] at h
  | cons y ys ih =>
    simp only [lstripWs] at h
    split at h
    · exact List.mem_cons_of_mem _ (ih h)
    · exact h

def rstripWs (s : Str) : Str := (lstripWs s.reverse).reverse

theorem stripWs_eq (s : Str) : stripWs s = rstripWs (lstripWs s) := rfl

theorem mem_rstripWs {c : Char} {s : Str} (h : c ∈ rstripWs s) : c ∈ s := by
  unfold rstripWs at h
  have := mem_lstripWs (List.mem_reverse.mp h)
  exact List.mem_reverse.mp this

theorem mem_stripWs {c : Char} {s : Str} (h : c ∈ stripWs s) : c ∈ s :=
  mem_lstripWs (mem_rstripWs h)

theorem rstripWs_mid {c : Char} (p z : Str) (h : isSpace c = false) :
    rstripWs (p ++ c :: z) = p ++ c :: rstripWs z := by
  unfold rstripWs
  rw [List.reverse_append, List.reverse_cons, List.append_assoc]
  simp only [List.singleton_append]
  rw [lstripWs_mid _ _ h]
  simp

theorem stripWs_space_left {ws : Str} (s : Str) (h : allSpace ws) : stripWs (ws ++ s) = stripWs s := by
  rw [stripWs_eq, stripWs_eq, lstripWs_space _ h]

theorem stripWs_cons_space {c : Char} (s : Str) (h : isSpace c = true) : stripWs (c :: s) = stripWs s := by
  rw [stripWs_eq, stripWs_eq, lstripWs, if_pos h]

theorem stripWs_lead {ws : Str} {c : Char} (r : Str) (h : allSpace ws) (hc : isSpace c = false) :
    stripWs (ws ++ c :: r) = c :: rstripWs r := by
  rw [stripWs_eq, lstripWs_space _ h, lstripWs_cons _ hc]
  exact rstripWs_mid [] r hc

theorem lstripWs_noSpace {s : Str} (h : ∀ c ∈ s, isSpace c = false) : lstripWs s = s := by
  cases s with
  | nil => rfl
  | cons y ys => exact lstripWs_cons _ (h y List.mem_cons_self)

theorem stripWs_noSpace {s : Str} (h : ∀ c ∈ s, isSpace c = false) : stripWs s = s := by
  rw [stripWs_eq, lstripWs_noSpace h, rstripWs, lstripWs_noSpace (fun c hc => h c (List.mem_reverse.mp hc)),
    List.reverse_reverse]

theorem lstripWs_decomp (s : Str) : ∃ ws, s = ws ++ lstripWs s := by
  induction s with
  | nil => exact ⟨[], rfl⟩
  | cons y ys ih =>
    by_cases hy : isSpace y = true
    · obtain ⟨ws, hws⟩ := ih
      refine ⟨y :: ws, ?_⟩
      simp only [lstripWs, hy, ↓reduceIte, List.cons_append]
      rw [← hws]
    · exact ⟨[], by simp [lstripWs, hy]⟩

theorem rstripWs_decomp (s : Str) : ∃ ws, s = rstripWs s ++ ws := by
  obtain ⟨ws, hws⟩ := lstripWs_decomp s.reverse
  refine ⟨ws.reverse, ?_⟩
  have := congrArg List.reverse hws
  simpa [rstripWs] using this

theorem mem_before_rstripWs {x c : Char} {Z : Str} (h : c ∈ before x (rstripWs Z)) : c ∈ before x Z := by
  obtain ⟨ws, hws⟩ := rstripWs_decomp Z
  have := mem_before_prefix ws h
  rwa [← hws] at this

theorem indent_allSpace : allSpace indent := by
  intro c hc
  simp only [indent, List.mem_cons, List.not_mem_nil, or_false] at hc
  rcases hc with h | h | h | h <;> subst h <;> decide +kernel

theorem not_mem_indent {c : Char} (h : isSpace c = false) : c ∉ indent :=
  not_mem_allSpace indent_allSpace h

theorem lstripWs_indent {c : Char} (r : Str) (h : isSpace c = false) : lstripWs (indent ++ c :: r) = c :: r := by
  rw [lstripWs_space _ indent_allSpace, lstripWs_cons _ h]

/-! ### identifiers -/

theorem idChar_props (c : Char) (h : (isIdStart c || isIdCont c) = true) :
    isSpace c = false ∧ c ≠ ':' ∧ c ≠ '#' ∧ c ≠ '=' ∧ c ≠ '"' ∧ c ≠ '\'' := by
  refine ⟨?_, ?_, ?_, ?_, ?_, ?_⟩
  · cases hs : isSpace c with
    | false => rfl
    | true =>
      exfalso
      simp only [isSpace, Bool.or_eq_true, decide_eq_true_eq] at hs
      rcases hs with (((((((((hs | hs) | hs) | hs) | hs) | hs) | hs) | hs) | hs) | hs) <;> subst hs <;> revert h <;>
        decide +kernel
  all_goals intro e; subst e; revert h; decide +kernel

theorem ident_chars {n : Str} (h : isIdentifier n = true) :
    ∀ c ∈ n, isSpace c = false ∧ c ≠ ':' ∧ c ≠ '#' ∧ c ≠ '=' ∧ c ≠ '"' ∧ c ≠ '\'' := by
  cases n with
  | nil => cases h
  | cons y ys =>
    simp only [isIdentifier, Bool.and_eq_true, List.all_eq_true] at h
    intro c hc
    apply idChar_props
    rcases List.mem_cons.mp hc with e | e
    · rw [e, h.1, Bool.true_or]
    · rw [h.2 c e, Bool.or_true]

theorem ident_ne_nil {n : Str} (h : isIdentifier n = true) : n ≠ [] := by
  intro e; subst e; simp [isIdentifier] at h

theorem ident_strip {n : Str} (h : isIdentifier n = true) : stripWs n = n :=
  stripWs_noSpace (fun c hc => (ident_chars h c hc).1)

theorem ident_not_mem {n : Str} (h : isIdentifier n = true) : ':' ∉ n ∧ '#' ∉ n ∧ '=' ∉ n :=
  ⟨fun hc => (ident_chars h _ hc).2.1 rfl, fun hc => (ident_chars h _ hc).2.2.1 rfl,
   fun hc => (ident_chars h _ hc).2.2.2.1 rfl⟩

/-! ### the field-definition classifier -/

/-- `_contains_field_definition` as one Boolean expression: `partition("=")` returns the whole
    line when there is no `=`, and the empty string is not an identifier -/
theorem containsFieldDef_eq (line : Str) : containsFieldDef line =
    ((before '#' line).contains ':' && !(after ':' (before '=' (before '#' line))).contains ':'
      && isIdentifier (stripWs (before ':' (before '=' (before '#' line))))) := by
  have e : ∀ l : Str, (if l.contains '=' then before '=' l else l) = before '=' l := by
    intro l
    cases h : l.contains '='
    · exact (before_of_not_mem (contains_false_iff.mp h)).symm
    · rfl
  have e' : ∀ f : Str, (if f.isEmpty then false else isIdentifier f) = isIdentifier f := by
    intro f; cases f <;> rfl
  simp only [containsFieldDef, e, e', Bool.if_false_left, Bool.decide_eq_true, Bool.not_not, Bool.and_assoc]

theorem cfd_congr {l l' : Str} (h : before '#' l = before '#' l') :
    containsFieldDef l = containsFieldDef l' := by
  unfold containsFieldDef; rw [h]

theorem cfd_comment {P : Str} (R : Str) (h : '#' ∉ P) : containsFieldDef (P ++ '#' :: R) = containsFieldDef P :=
  cfd_congr (by rw [before_stop _ h, before_of_not_mem h])

theorem cfd_no_colon {l : Str} (h : ':' ∉ before '#' l) : containsFieldDef l = false := by
  rw [containsFieldDef_eq, contains_false_iff.mpr h]; rfl

theorem cfd_no_colon' {l : Str} (h : ':' ∉ l) : containsFieldDef l = false :=
  cfd_no_colon (fun hc => h (mem_before hc))

theorem cfd_nonident_start {ws : Str} (c : Char) (rest : Str) (hws : allSpace ws)
    (hs : isSpace c = false) (hi : isIdStart c = false) (h1 : c ≠ '#') (h2 : c ≠ '=') (h3 : c ≠ ':') :
    containsFieldDef (ws ++ c :: rest) = false := by
  rw [containsFieldDef_eq, before_skip _ (not_mem_allSpace hws (by decide +kernel)) h1,
    before_skip _ (not_mem_allSpace hws (by decide +kernel)) h2, before_skip _ (not_mem_allSpace hws (by decide +kernel)) h3,
    stripWs_lead _ hws hs]
  simp [isIdentifier, hi]

theorem cfd_def {ws n Z : Str} (hws : allSpace ws) (hn : isIdentifier n = true)
    (hZ : ':' ∉ before '#' Z) : containsFieldDef (ws ++ n ++ ':' :: Z) = true := by
  have hP : ∀ x : Char, isSpace x = false → x ∉ n → x ∉ ws ++ n := by
    intro x hx hxn hc
    rcases List.mem_append.mp hc with h | h
    · exact not_mem_allSpace hws hx h
    · exact hxn h
  obtain ⟨hnc, hnh, hne⟩ := ident_not_mem hn
  have hPc : ':' ∉ ws ++ n := hP ':' (by decide +kernel) hnc
  have hZ' : ':' ∉ before '=' (before '#' Z) := fun hc => hZ (mem_before hc)
  rw [containsFieldDef_eq, before_skip Z (hP '#' (by decide +kernel) hnh) (by decide +kernel),
    before_skip _ (hP '=' (by decide +kernel) hne) (by decide +kernel), before_stop _ hPc, after_stop _ hPc,
    stripWs_space_left _ hws, ident_strip hn, hn, contains_false_iff.mpr hZ']
  simp

/-- exact identifier comparison: such a line defines `m` iff `m` is the identifier written there -/
theorem lineDefines_def {ws n Z : Str} (m : Str) (hws : allSpace ws) (hn : isIdentifier n = true)
    (hZ' : ':' ∉ before '#' (rstripWs Z)) : lineDefines (ws ++ n ++ ':' :: Z) m = (n == m) := by
  obtain ⟨hnc, _, _⟩ := ident_not_mem hn
  have hstrip : stripWs (ws ++ n ++ ':' :: Z) = n ++ ':' :: rstripWs Z := by
    cases n with
    | nil => simp [isIdentifier] at hn
    | cons c cs =>
      rw [List.append_assoc, List.cons_append, stripWs_lead _ hws (ident_chars hn c List.mem_cons_self).1,
        rstripWs_mid _ _ (by decide +kernel)]
      rfl
  have hcfd : containsFieldDef (n ++ ':' :: rstripWs Z) = true := by
    have := cfd_def (ws := []) (fun _ h => by simp at h) hn hZ'
    simpa using this
  unfold lineDefines
  simp only [hstrip, hcfd, Bool.not_true, Bool.false_eq_true, ↓reduceIte, before_stop _ hnc,
    ident_strip hn, hn, Bool.true_and]

/-! ### well-formed blocks, unpacked -/

def BelowOk : Below → Prop
  | .none => True
  | .one q m => q.ch ∉ m ∧ breakOn q.other.tok (m ++ q.tok) = none
  | .multi q f r => q.ch ∉ f ∧ breakOn q.other.tok f = none ∧
      ∀ m ∈ r, q.ch ∉ m ∧ containsFieldDef (indent ++ m) = false

structure WF (b : Block) : Prop where
  name : isIdentifier b.name = true
  tailC : ':' ∉ b.tail
  tailOk : tailOk b.tail = true
  above : ∀ m ∈ b.above, hasTriple (commentLine m) = false
  below : BelowOk b.below

theorem wf_of {b : Block} (h : b.wf = true) : WF b := by
  simp only [Block.wf, Block.wfLoose, Block.docLooksLikeDef, Bool.and_eq_true, Bool.not_eq_eq_eq_not,
    Bool.not_true, contains_false_iff, List.all_eq_true] at h
  obtain ⟨⟨⟨⟨⟨h1, h2⟩, h3⟩, h4⟩, h5⟩, h6⟩ := h
  refine ⟨h1, h2, h3, ?_, ?_⟩
  · intro m hm
    have := h4 m hm
    simpa [aboveOk] using this
  · cases hb : b.below with
    | none => trivial
    | one q m =>
      rw [hb] at h5
      simp only [docLineOk, openOk, Bool.and_eq_true, Bool.not_eq_eq_eq_not, Bool.not_true,
        contains_false_iff, Option.isNone_iff_eq_none] at h5
      exact h5
    | multi q f r =>
      rw [hb] at h5 h6
      simp only [docLineOk, openOk, Bool.and_eq_true, Bool.not_eq_eq_eq_not, Bool.not_true,
        contains_false_iff, Option.isNone_iff_eq_none, List.all_eq_true] at h5
      simp only [List.any_eq_false, looksLikeDef] at h6
      refine ⟨h5.1.1, h5.1.2, fun m hm => ⟨h5.2 m hm, ?_⟩⟩
      have := h6 m hm
      simpa using this

/-! ### blank lines and comment lines -/

theorem blank_facts : containsFieldDef [] = false ∧ hasTriple [] = false ∧ isEmptyLine [] = true := by
  decide +kernel

theorem mem_blanks {n : Nat} {l : Str} (h : l ∈ blanks n) : l = [] :=
  List.eq_of_mem_replicate h

theorem blanks_succ (n : Nat) : blanks (n + 1) = [] :: blanks n := List.replicate_succ

theorem blanks_reverse (n : Nat) : (blanks n).reverse = blanks n := List.reverse_replicate ..

theorem blanks_nonstop {n : Nat} : ∀ l ∈ blanks n, isStop l = false := by
  intro l hl; rw [mem_blanks hl]; decide +kernel

theorem cfd_of_nonstop {l : Str} (h : isStop l = false) : containsFieldDef l = false := by
  simp only [isStop, Bool.or_eq_false_iff] at h
  exact h.1.1

theorem comment_facts {m : Str} (h : hasTriple (commentLine m) = false) :
    containsFieldDef (commentLine m) = false ∧ hasTriple (commentLine m) = false ∧
    isEmptyLine (commentLine m) = false ∧ isComment (commentLine m) = true ∧
    commentAt (commentLine m) = stripWs m := by
  have hi : '#' ∉ indent := not_mem_indent (by decide +kernel)
  refine ⟨?_, h, ?_, ?_, ?_⟩
  · apply cfd_no_colon
    unfold commentLine
    rw [before_stop _ hi]
    exact not_mem_indent (by decide +kernel)
  · unfold isEmptyLine commentLine
    rw [lstripWs_indent _ (by decide +kernel)]; rfl
  · unfold isComment commentLine
    rw [lstripWs_indent _ (by decide +kernel)]; rfl
  · unfold commentAt commentLine
    have hc : (indent ++ '#' :: ' ' :: m).contains '#' = true := by
      rw [List.contains_iff_mem]; simp
    rw [hc, after_stop _ hi]
    exact stripWs_cons_space m (by decide +kernel)

theorem commentAt_quiet {l : Str} (h : '#' ∉ l) : commentAt l = [] := by
  rw [commentAt, contains_false_iff.mpr h]; rfl

theorem isHeaderLine_comment (m : Str) : isHeaderLine (commentLine m) = false := by
  unfold isHeaderLine commentLine
  rw [lstripWs_indent _ (by decide +kernel)]; rfl

theorem isStop_comment {m : Str} (h : hasTriple (commentLine m) = false) : isStop (commentLine m) = false := by
  rw [isStop, (comment_facts h).1, h, isHeaderLine_comment]; rfl

/-! ### the triple-quote tokens -/

theorem tok_eq (q : Quote) : q.tok = [q.ch, q.ch, q.ch] := by cases q <;> rfl

theorem quote_props (q : Quote) : isSpace q.ch = false ∧ isIdStart q.ch = false ∧ q.ch ≠ '#' ∧ q.ch ≠ '=' ∧ q.ch ≠ ':' := by
  cases q <;> decide +kernel

theorem other_ch_props (q : Quote) : q.other.ch ∉ indent ∧ q.other.ch ≠ q.ch := by
  cases q <;> exact ⟨not_mem_indent (by decide +kernel), by decide +kernel⟩

theorem breakOn_cons_ne {c y : Char} (t s : Str) (h : y ≠ c) :
    breakOn (c :: t) (y :: s) = (breakOn (c :: t) s).map (fun p => (y :: p.1, p.2)) := by
  rw [breakOn]
  cases breakOn (c :: t) s <;> simp [startsWith, h]

theorem breakOn_tok_skip (q : Quote) {a : Str} (w : Str) (h : q.ch ∉ a) (hw : breakOn q.tok w = none) :
    breakOn q.tok (a ++ w) = none := by
  rw [tok_eq] at hw ⊢
  induction a with
  | nil => exact hw
  | cons y ys ih =>
    rw [List.cons_append, breakOn_cons_ne _ _ (List.ne_of_not_mem_cons h).symm,
      ih (List.not_mem_of_not_mem_cons h)]
    rfl

theorem breakOn_tok_absent (q : Quote) {s : Str} (h : q.ch ∉ s) : breakOn q.tok s = none := by
  have := breakOn_tok_skip q [] h (by cases q <;> rfl)
  rwa [List.append_nil] at this

theorem breakOn_tok_first (q : Quote) {a : Str} (r : Str) (h : q.ch ∉ a) :
    breakOn q.tok (a ++ q.tok ++ r) = some (a, r) := by
  rw [tok_eq]
  induction a with
  | nil => simp [breakOn, startsWith]
  | cons y ys ih =>
    rw [List.cons_append, List.cons_append, breakOn_cons_ne _ _ (List.ne_of_not_mem_cons h).symm,
      ih (List.not_mem_of_not_mem_cons h)]
    rfl

theorem hasTriple_of_tok (q : Quote) {l : Str} (h : (breakOn q.tok l).isSome = true) : hasTriple l = true := by
  cases q
  · simp [hasTriple, show (breakOn tripleDouble l).isSome = true from h]
  · simp [hasTriple, show (breakOn tripleSingle l).isSome = true from h]

theorem isStop_tok (q : Quote) (r : Str) : isStop (indent ++ q.tok ++ r) = true := by
  have := hasTriple_of_tok q (l := indent ++ q.tok ++ r)
    (by rw [breakOn_tok_first q r (not_mem_indent (quote_props q).1)]; rfl)
  rw [isStop, this, Bool.or_true, Bool.true_or]

theorem chooseTok_of (q : Quote) {l : Str} {p : Str × Str} (h1 : breakOn q.tok l = some p)
    (h2 : breakOn q.other.tok l = none) : chooseTok l = some q.tok := by
  cases q
  · have h1' : breakOn tripleDouble l = some p := h1
    have h2' : breakOn tripleSingle l = none := h2
    rw [chooseTok, h1', h2']; rfl
  · have h1' : breakOn tripleSingle l = some p := h1
    have h2' : breakOn tripleDouble l = none := h2
    rw [chooseTok, h1', h2']; rfl

theorem tok_line_eq (q : Quote) (w : Str) : indent ++ q.tok ++ w = indent ++ q.ch :: q.ch :: q.ch :: w := by
  rw [tok_eq]; rfl

theorem cfd_tok_line (q : Quote) (w : Str) : containsFieldDef (indent ++ q.tok ++ w) = false := by
  obtain ⟨h1, h2, h3, h4, h5⟩ := quote_props q
  rw [tok_line_eq]
  exact cfd_nonident_start q.ch _ indent_allSpace h1 h2 h3 h4 h5

/-! ### definition lines -/

/-- the inline-comment part of a definition line -/
def inlPart (b : Block) : Str :=
  match b.inline with
  | some m => ' ' :: ' ' :: '#' :: ' ' :: m
  | none => []

theorem defLine_eq (b : Block) : defLine b = indent ++ b.name ++ ':' :: (b.tail ++ inlPart b) := by
  unfold defLine inlPart
  cases b.inline <;> simp [List.append_assoc]

theorem before_inlPart (b : Block) : ':' ∉ before '#' (inlPart b) := by
  unfold inlPart
  cases b.inline <;> simp [before]

/-- the part of a definition line before its comment has no second `:` — whatever the inline
    comment says -/
theorem def_rest_ok {b : Block} (h : ':' ∉ b.tail) :
    ':' ∉ before '#' (b.tail ++ inlPart b) ∧ ':' ∉ before '#' (rstripWs (b.tail ++ inlPart b)) := by
  have h1 : ':' ∉ before '#' (b.tail ++ inlPart b) := by
    intro hc
    rcases mem_before_append hc with e | e
    · exact h e
    · exact before_inlPart b e
  exact ⟨h1, fun hc => h1 (mem_before_rstripWs hc)⟩

theorem lstrip_defLine {b : Block} (h : isIdentifier b.name = true) :
    lstripWs (defLine b) = b.name ++ (':' :: b.tail) ++ inlPart b := by
  rw [defLine_eq, List.append_assoc]
  cases hn : b.name with
  | nil => exact absurd hn (ident_ne_nil h)
  | cons c cs =>
    rw [List.cons_append, lstripWs_indent _ (ident_chars h c (hn ▸ List.mem_cons_self)).1]
    simp [List.append_assoc]

/-! ### the inline comment: first `#` outside a string literal -/

theorem runTok_append {s t : TokSt} {A : Str} (B : Str) (h : runTok s A = some t) :
    runTok s (A ++ B) = runTok t B := by
  induction A generalizing s with
  | nil => cases h; rfl
  | cons c cs ih =>
    rw [runTok] at h
    rw [List.cons_append, runTok]
    split at h
    · exact ih h
    · cases h

theorem tokScan_run {s t : TokSt} {A : Str} (R : Str) (h : runTok s A = some t) :
    tokScan s (A ++ R) = tokScan t R := by
  induction A generalizing s with
  | nil => cases h; rfl
  | cons c cs ih =>
    rw [runTok] at h
    rw [List.cons_append, tokScan]
    split at h
    · next s1 hs => rw [hs]; exact ih h
    · cases h

def identSt : TokSt := ⟨none, [], .ident⟩

theorem step_identCont (c : Char) (h : isIdCont c = true) : step identSt c = .next identSt := by
  obtain ⟨-, -, h1, -, h2, h3⟩ := idChar_props c (by rw [h, Bool.or_true])
  by_cases ha : c.isAlpha = true
  · simp [step, identSt, h1, h2, h3, ha]
  · by_cases hu : c = '_'
    · subst hu; decide +kernel
    · have hd : c.isDigit = true := by
        simp only [isIdCont, Char.isAlphanum, Bool.or_eq_true, decide_eq_true_eq] at h
        rcases h with (h | h) | h
        · exact absurd h ha
        · exact h
        · exact absurd h hu
      simp [step, identSt, h1, h2, h3, ha, hu, hd]

theorem runTok_identCont (cs : Str) (h : cs.all isIdCont = true) : runTok identSt cs = some identSt := by
  induction cs with
  | nil => rfl
  | cons c cs ih =>
    simp only [List.all_cons, Bool.and_eq_true] at h
    simp only [runTok, step_identCont c h.1]
    exact ih h.2

theorem runTok_ident {n : Str} (h : isIdentifier n = true) : runTok st0 n = some identSt := by
  cases n with
  | nil => cases h
  | cons c cs =>
    simp only [isIdentifier, Bool.and_eq_true] at h
    obtain ⟨-, -, h1, -, h2, h3⟩ := idChar_props c (by rw [h.1, Bool.true_or])
    have hs : step st0 c = .next identSt := by
      have := h.1
      simp only [isIdStart] at this
      simp [step, st0, identSt, h1, h2, h3, this]
    simp only [runTok, hs]
    exact runTok_identCont cs h.2

theorem tokScan_comment {s : TokSt} (m : Str) (h : s.inStr = none) :
    tokScan s (' ' :: ' ' :: '#' :: m) = .comment m := by
  simp [tokScan, step, h, isSpace]

/-- **the inline comment of a definition line is its own comment**, also when the default value
    contains `#` inside string literals -/
theorem inline_def {b : Block} (h : WF b) : inlineComment (defLine b) = b.doc.inline := by
  have hto := h.tailOk
  unfold tailOk at hto
  cases hr : runTok ⟨none, [], .ident⟩ (':' :: b.tail) with
  | none => rw [hr] at hto; cases hto
  | some s' =>
    rw [hr] at hto
    simp only [Bool.and_eq_true, Option.isNone_iff_eq_none, List.isEmpty_iff] at hto
    obtain ⟨hin, hdep⟩ := hto
    have htok : inlineTok (defLine b) = tokScan s' (inlPart b) := by
      rw [inlineTok, lstrip_defLine h.name, tokScan_run _ ((runTok_append _ (runTok_ident h.name)).trans hr)]
    unfold inlineComment Block.doc
    rw [htok, inlPart]
    cases hi : b.inline with
    | none =>
      have : tokScan s' [] = .noComment := by simp [tokScan, hin, hdep]
      rw [this]
      cases (defLine b).contains '#' <;> rfl
    | some m =>
      have hc : (defLine b).contains '#' = true := by
        rw [List.contains_iff_mem, defLine, hi]
        exact List.mem_append_right _ (.tail _ (.tail _ (.head _)))
      rw [hc, tokScan_comment _ hin]
      exact stripWs_cons_space m (by decide +kernel)

theorem def_facts {b : Block} (h : WF b) :
    containsFieldDef (defLine b) = true ∧ (∀ n, lineDefines (defLine b) n = (b.name == n)) ∧
    inlineComment (defLine b) = b.doc.inline := by
  refine ⟨?_, ?_, inline_def h⟩
  · rw [defLine_eq]; exact cfd_def indent_allSpace h.name (def_rest_ok h.tailC).1
  · intro n; rw [defLine_eq]; exact lineDefines_def n indent_allSpace h.name (def_rest_ok h.tailC).2

theorem isStop_def {b : Block} (h : WF b) : isStop (defLine b) = true := by
  simp [isStop, (def_facts h).1]

theorem def_not_empty {b : Block} (h : isIdentifier b.name = true) : isEmptyLine (defLine b) = false := by
  rw [isEmptyLine, lstrip_defLine h]
  cases hn : b.name with
  | nil => exact absurd hn (ident_ne_nil h)
  | cons c cs => rfl

/-! ### the lines of a block around its definition line -/

theorem below_no_def {bl : Below} (h : BelowOk bl) : ∀ l ∈ belowLines bl, containsFieldDef l = false := by
  intro l hl
  cases bl with
  | none => simp [belowLines] at hl
  | one q m =>
    simp only [belowLines, List.mem_singleton] at hl
    subst hl
    rw [List.append_assoc]
    exact cfd_tok_line q _
  | multi q f r =>
    simp only [belowLines, List.cons_append, List.mem_cons, List.mem_append, List.mem_map,
      List.mem_nil_iff, or_false] at hl
    rcases hl with e | ⟨m, hm, e⟩ | e
    · subst e; exact cfd_tok_line q f
    · subst e; exact (h.2.2 m hm).2
    · subst e
      have := cfd_tok_line q []
      rwa [List.append_nil] at this

def headLines (b : Block) : List Str := b.above.map commentLine ++ blanks b.gap1

def tailLines (b : Block) : List Str := blanks b.gap2 ++ belowLines b.below ++ blanks b.gap3

theorem renderBlock_eq (b : Block) : renderBlock b = headLines b ++ defLine b :: tailLines b := by
  simp [renderBlock, headLines, tailLines, List.append_assoc]

theorem headLines_nonstop {b : Block} (h : WF b) : ∀ l ∈ headLines b, isStop l = false := by
  intro l hl
  rcases List.mem_append.mp hl with e | e
  · obtain ⟨m, hm, rfl⟩ := List.mem_map.mp e
    exact isStop_comment (h.above m hm)
  · exact blanks_nonstop l e

theorem tailLines_no_def {b : Block} (h : WF b) : ∀ l ∈ tailLines b, containsFieldDef l = false := by
  intro l hl
  rcases List.mem_append.mp hl with e | e
  · rcases List.mem_append.mp e with e | e
    · rw [mem_blanks e]; exact blank_facts.1
    · exact below_no_def h.below l e
  · rw [mem_blanks e]; exact blank_facts.1

end SpVerif.DocScan
