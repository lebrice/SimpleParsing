import Lean.Meta.Tactic.Simp.RegisterCommand

/-- Unfolding set of `decide_lit` / `rfl_lit`: the concrete test data (tables, class
    sources, argument vectors) whose definitions contain string literals. -/
register_simp_attr lit
