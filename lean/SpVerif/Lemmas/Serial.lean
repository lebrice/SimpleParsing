/-
  Helper lemmas about `SpVerif.Model.Serial`, shared by Props/C05 and Props/C13.
-/
import SpVerif.Model.Serial
import SpVerif.Lemmas.BoolFlag
namespace SpVerif.Serial
open SpVerif SpVerif.BoolFlagL

/-! ### the outcome monad -/

@[simp] theorem Out.ok_bind {α β : Type} (v : α) (f : α → Out β) : (Out.ok v).bind f = f v := rfl
@[simp] theorem Out.raise_bind {α β : Type} (e : Str) (f : α → Out β) : (Out.raise e : Out α).bind f = .raise e := rfl
@[simp] theorem Out.unmodelled_bind {α β : Type} (e : Str) (f : α → Out β) :
    (Out.unmodelled e : Out α).bind f = .unmodelled e := rfl

theorem Out.bind_eq_ok {α β : Type} {x : Out α} {f : α → Out β} {b : β} (h : x.bind f = .ok b) :
    ∃ a, x = .ok a ∧ f a = .ok b := by
  cases x with
  | ok a => exact ⟨a, rfl, h⟩
  | raise e => simp at h
  | unmodelled e => simp at h

@[simp] theorem mapOut_nil {α β : Type} (f : α → Out β) : mapOut f [] = .ok [] := rfl
@[simp] theorem mapOut_cons {α β : Type} (f : α → Out β) (x : α) (xs : List α) :
    mapOut f (x :: xs) = (f x).bind fun y => (mapOut f xs).bind fun ys => .ok (y :: ys) := rfl

theorem mapOut_map_ok {α β γ : Type} (f : β → Out γ) (e : α → β) (w : α → γ) (xs : List α)
    (h : ∀ x ∈ xs, f (e x) = .ok (w x)) : mapOut f (xs.map e) = .ok (xs.map w) := by
  induction xs with
  | nil => rfl
  | cons x xs ih =>
    obtain ⟨hx, hxs⟩ := List.forall_mem_cons.mp h
    rw [List.map_cons, mapOut_cons, hx, ih hxs]
    rfl

theorem mapOut_ok_length {α β : Type} (f : α → Out β) (xs : List α) (ys : List β)
    (h : mapOut f xs = .ok ys) : ys.length = xs.length := by
  induction xs generalizing ys with
  | nil => simp at h; cases h; rfl
  | cons x xs ih =>
    simp only [mapOut_cons] at h
    obtain ⟨y, _, h2⟩ := Out.bind_eq_ok h
    obtain ⟨ys', h3, h4⟩ := Out.bind_eq_ok h2
    cases h4
    simp [ih ys' h3]

/-! ### dict insertion on pairwise-distinct keys -/

/-- earlier keys are not `==` to later keys -/
def keysDistinct : List (Val × Val) → Bool
  | [] => true
  | (k, _) :: ps => ps.all (fun p => !pyEq k p.1) && keysDistinct ps

theorem dictInsert_fresh (k v : Val) (acc : List (Val × Val))
    (h : ∀ p ∈ acc, pyEq p.1 k = false) : dictInsert k v acc = acc ++ [(k, v)] := by
  induction acc with
  | nil => rfl
  | cons p ps ih =>
    obtain ⟨k', v'⟩ := p
    have h1 : pyEq k' k = false := h (k', v') (by simp)
    simp only [dictInsert, h1, Bool.false_eq_true, ↓reduceIte, List.cons_append]
    rw [ih (fun q hq => h q (by simp [hq]))]

/-- `acc` followed by `ps`, all keys pairwise distinct in insertion direction -/
def distinctFrom (acc ps : List (Val × Val)) : Prop :=
  (∀ p ∈ acc, ∀ q ∈ ps, pyEq p.1 q.1 = false) ∧ keysDistinct ps = true

theorem distinctFrom_step {acc : List (Val × Val)} {k v : Val} {ps : List (Val × Val)}
    (h : distinctFrom acc ((k, v) :: ps)) :
    (∀ p ∈ acc, pyEq p.1 k = false) ∧ distinctFrom (acc ++ [(k, v)]) ps := by
  obtain ⟨h1, h2⟩ := h
  simp only [keysDistinct, Bool.and_eq_true, List.all_eq_true, Bool.not_eq_eq_eq_not, Bool.not_true] at h2
  refine ⟨fun p hp => h1 p hp (k, v) (by simp), ?_, h2.2⟩
  intro p hp q hq
  rcases List.mem_append.mp hp with hp | hp
  · exact h1 p hp q (by simp [hq])
  · simp only [List.mem_singleton] at hp
    subst hp
    exact h2.1 q hq

theorem foldl_dictInsert_distinct (ps acc : List (Val × Val)) (h : distinctFrom acc ps) :
    ps.foldl (fun a (p : Val × Val) => dictInsert p.1 p.2 a) acc = acc ++ ps := by
  induction ps generalizing acc with
  | nil => simp
  | cons p ps ih =>
    obtain ⟨k, v⟩ := p
    obtain ⟨h1, h2⟩ := distinctFrom_step h
    simp only [List.foldl_cons]
    rw [dictInsert_fresh k v acc h1, ih _ h2]
    simp

theorem distinctFrom_nil (ps : List (Val × Val)) (h : keysDistinct ps = true) : distinctFrom [] ps :=
  ⟨fun _ hp => (nomatch hp), h⟩

/-! ### printing and parsing ints: `int(str(n)) == n` -/

theorem digitVal_digitChar : ∀ d, d < 10 → digitVal (digitChar d) = some d := by decide +kernel
theorem digitChar_ne_underscore : ∀ d, d < 10 → digitChar d ≠ '_' := by decide +kernel
theorem digitChar_ne_minus : ∀ d, d < 10 → digitChar d ≠ '-' := by decide +kernel
theorem digitChar_ne_plus : ∀ d, d < 10 → digitChar d ≠ '+' := by decide +kernel
theorem digitChar_ascii : ∀ d, d < 10 → decide ((digitChar d).toNat < 128) = true := by decide +kernel

theorem parseDigits_digit (d : Nat) (hd : d < 10) (cs : Str) (acc : Nat) (b : Bool) :
    parseDigits (digitChar d :: cs) acc b = parseDigits cs (acc * 10 + d) true := by
  simp only [parseDigits, digitChar_ne_underscore d hd, ↓reduceIte, digitVal_digitChar d hd]

/-- the recursive call of `digitsAux` stays within its fuel -/
theorem div10_lt_fuel {f n : Nat} (h : n < f + 1) (h10 : ¬ n < 10) : n / 10 < f :=
  have hpos : 0 < n := Nat.lt_of_lt_of_le (by decide) (Nat.le_of_not_lt h10)
  Nat.lt_of_lt_of_le (Nat.div_lt_self hpos (by decide)) (Nat.le_of_lt_succ h)

theorem parseDigits_digitsAux (f n : Nat) (rest : List Char) (h : n < f) :
    parseDigits (digitsAux f n rest) 0 false = parseDigits rest n true := by
  induction f generalizing n rest with
  | zero => omega
  | succ f ih =>
    unfold digitsAux
    split
    · next h10 => rw [parseDigits_digit n h10, Nat.zero_mul, Nat.zero_add]
    · next h10 => rw [ih _ _ (div10_lt_fuel h h10), parseDigits_digit _ (Nat.mod_lt _ (by decide)), Nat.div_add_mod']

theorem parseDigits_showNat (n : Nat) : parseDigits (showNat n) 0 false = some n := by
  unfold showNat
  rw [parseDigits_digitsAux (n + 1) n [] (by omega)]
  simp [parseDigits]

theorem digitsAux_head (f n : Nat) (rest : List Char) (h : n < f) :
    ∃ d tl, d < 10 ∧ digitsAux f n rest = digitChar d :: tl := by
  induction f generalizing n rest with
  | zero => omega
  | succ f ih =>
    unfold digitsAux
    by_cases h10 : n < 10
    · exact ⟨n, rest, h10, by simp [h10]⟩
    · simp only [h10, ↓reduceIte]
      exact ih (n / 10) _ (div10_lt_fuel h h10)

theorem digitsAux_all (p : Char → Bool) (hp : ∀ d, d < 10 → p (digitChar d) = true) (f n : Nat)
    (rest : List Char) (hr : rest.all p = true) : (digitsAux f n rest).all p = true := by
  induction f generalizing n rest with
  | zero => exact hr
  | succ f ih =>
    unfold digitsAux
    split
    · next h10 => exact Bool.and_eq_true_iff.mpr ⟨hp n h10, hr⟩
    · exact ih _ _ (Bool.and_eq_true_iff.mpr ⟨hp _ (Nat.mod_lt _ (by decide)), hr⟩)

theorem showInt_all (p : Char → Bool) (hp : ∀ d, d < 10 → p (digitChar d) = true) (hm : p '-' = true) (n : Int) :
    (showInt n).all p = true := by
  cases n with
  | ofNat m => exact digitsAux_all p hp _ _ [] rfl
  | negSucc m => exact Bool.and_eq_true_iff.mpr ⟨hm, digitsAux_all p hp _ _ [] rfl⟩

theorem parseSigned_showNat (n : Nat) : parseSigned (showNat n) = some (Int.ofNat n) := by
  obtain ⟨d, tl, hd, he⟩ := digitsAux_head (n + 1) n [] (by omega)
  have hp := parseDigits_showNat n
  unfold showNat at hp ⊢
  rw [he] at hp ⊢
  unfold parseSigned
  split
  · next h => exact absurd (List.cons.inj h).1 (digitChar_ne_minus d hd)
  · next h => exact absurd (List.cons.inj h).1 (digitChar_ne_plus d hd)
  · simp [hp]

/-! whitespace around a number text -/

/-- `(ws + s + ws').strip() == s` when `s` is non-empty and holds no whitespace -/
theorem stripWs_pad (ws ws' s : Str) (hw : ws.all isSpace = true) (hw' : ws'.all isSpace = true) (hs : s ≠ [])
    (hn : s.all (fun c => !isSpace c) = true) : stripWs (ws ++ s ++ ws') = s := by
  have hmem : ∀ c ∈ s, isSpace c = false := by
    intro c hc
    have := (List.all_eq_true.mp hn) c hc
    simpa using this
  unfold stripWs
  rw [List.append_assoc, lstripWs_space _ (List.all_eq_true.mp hw)]
  cases s with
  | nil => exact absurd rfl hs
  | cons c cs =>
    rw [List.cons_append, lstripWs_cons _ (hmem c (by simp))]
    rw [← List.cons_append, List.reverse_append]
    rw [lstripWs_space _ fun d hd => List.all_eq_true.mp hw' d (List.mem_reverse.mp hd)]
    cases hr : (c :: cs).reverse with
    | nil => simp at hr
    | cons d ds =>
      have hd : d ∈ c :: cs := by
        have : d ∈ (c :: cs).reverse := by rw [hr]; simp
        exact List.mem_reverse.mp this
      rw [lstripWs_cons ds (hmem d hd), ← hr, List.reverse_reverse]

theorem digitChar_noSpace : ∀ d, d < 10 → (!isSpace (digitChar d)) = true := by decide +kernel

theorem showNat_ne_nil (n : Nat) : showNat n ≠ [] := by
  obtain ⟨d, tl, _, he⟩ := digitsAux_head (n + 1) n [] (by omega)
  unfold showNat; rw [he]; simp

theorem showInt_ne_nil (n : Int) : showInt n ≠ [] := by
  cases n with
  | ofNat m => exact showNat_ne_nil m
  | negSucc m => simp [showInt]

theorem parseSigned_showInt (n : Int) : parseSigned (showInt n) = some n := by
  cases n with
  | ofNat m => simp [showInt, parseSigned_showNat]
  | negSucc m =>
    simp only [showInt, parseSigned, parseDigits_showNat, Option.map_some]
    rfl

/-- `int(ws + str(n) + ws') == n` for any surrounding whitespace -/
theorem parseInt_padded (n : Int) (ws ws' : Str) (hw : ws.all isSpace = true) (hw' : ws'.all isSpace = true) :
    parseInt (ws ++ showInt n ++ ws') = some n := by
  unfold parseInt
  rw [stripWs_pad ws ws' _ hw hw' (showInt_ne_nil n) (showInt_all (fun c => !isSpace c) digitChar_noSpace rfl n),
    parseSigned_showInt]

/-- `int(str(n)) == n` -/
theorem parseInt_showInt (n : Int) : parseInt (showInt n) = some n := by
  have := parseInt_padded n [] [] rfl rfl
  simpa using this

/-- `int("+" + str(n)) == n` for a non-negative n -/
theorem parseInt_plus (m : Nat) : parseInt ('+' :: showNat m) = some (Int.ofNat m) := by
  unfold parseInt
  have hs : stripWs ('+' :: showNat m) = '+' :: showNat m := by
    have := stripWs_pad [] [] ('+' :: showNat m) rfl rfl (List.cons_ne_nil _ _)
      (Bool.and_eq_true_iff.mpr ⟨rfl, digitsAux_all (fun c => !isSpace c) digitChar_noSpace _ _ [] rfl⟩)
    simpa using this
  rw [hs]
  simp [parseSigned, parseDigits_showNat]

theorem isSpace_ascii (c : Char) (h : isSpace c = true) : c.toNat < 128 := by
  simp only [isSpace, Bool.or_eq_true, decide_eq_true_eq] at h
  rcases h with ((((((((h | h) | h) | h) | h) | h) | h) | h) | h) | h <;> subst h <;> decide

theorem isAscii_showInt (n : Int) : isAscii (showInt n) = true := showInt_all (fun c => decide (c.toNat < 128)) digitChar_ascii rfl n

theorem isAscii_spaces (ws : Str) (h : ws.all isSpace = true) : isAscii ws = true :=
  List.all_eq_true.mpr fun c hc => decide_eq_true (isSpace_ascii c (List.all_eq_true.mp h c hc))

/-- `str` of ints is injective (from the parse-back lemma) -/
theorem showInt_injective {a b : Int} (h : showInt a = showInt b) : a = b := by
  have := parseInt_showInt a
  rw [h, parseInt_showInt b] at this
  exact (Option.some.inj this).symm

/-! ### `decode` on each type constructor (the dispatch of get_decoding_fn) -/

section
variable (henv : HEnv)
theorem decode_int (v : Val) : decode henv .int v = decodeInt v := rfl
theorem decode_float (v : Val) : decode henv .float v = decodeFloat v := rfl
theorem decode_str (v : Val) : decode henv .str v = decodeStr v := rfl
theorem decode_bool (v : Val) : decode henv .bool v = decodeBool v := rfl
theorem decode_path (v : Val) : decode henv .path v = decodePath v := rfl
theorem decode_enum (c : Str) (ms : List Str) (v : Val) : decode henv (.enum c ms) v = decodeEnum c ms v := rfl
theorem decode_literal (vals : List Val) (v : Val) : decode henv (.literal vals) v = decodeLiteral vals v := rfl
theorem decode_list (t : FTy) (raw : Val) : decode henv (.list t) raw =
    (iterOf raw).bind fun xs => (mapOut (decode henv t) xs).bind fun ys => .ok (.list ys) := rfl
theorem decode_vtuple (t : FTy) (raw : Val) : decode henv (.vtuple t) raw =
    (iterOf raw).bind fun xs => (mapOut (decode henv t) xs).bind fun ys => .ok (.tuple ys) := rfl
theorem decode_tuple (ts : List FTy) (raw : Val) : decode henv (.tuple ts) raw =
    (iterOf raw).bind fun xs => (decodeT henv ts xs).bind fun ys => .ok (.tuple ys) := rfl
theorem decode_set (t : FTy) (raw : Val) : decode henv (.set t) raw =
    (iterOf raw).bind fun xs => (mapOut (decode henv t) xs).bind fun ys =>
      if ys.all hashable then .ok (.set (setOfList [] ys)) else tyErr := rfl
theorem decode_dict (k v : FTy) (raw : Val) : decode henv (.dict k v) raw =
    (dictItems raw).bind fun (ordered, ps) =>
      (decodeItems (decode henv k) (decode henv v) ps []).bind fun qs => .ok (.dict ordered qs) := rfl
theorem decode_union (alts : List FTy) (raw : Val) :
    decode henv (.union alts) raw =
      if unionOfPrims alts && alts.any (primMember raw) then .ok raw
      else decodeU henv (alts.any FTy.isNoneT) alts raw := rfl
theorem decode_dc (cls : Str) (reg : Bool) (fs : List (Str × FMeta × Option Val × FTy)) (v : Val) :
    decode henv (.dc cls reg fs) v = fromDictWith cls reg (fun d => decodeFields henv d fs false) v := rfl
end

theorem decodeInt_int (n : Int) : decodeInt (.int n) = .ok (.int n) := rfl
theorem decodeEnum_ok (c : Str) (ms : List Str) (n : Str) (h : ms.contains n = true) :
    decodeEnum c ms (.str n) = .ok (.enum c n) := by
  simp only [decodeEnum, h, ↓reduceIte]
theorem decodePath_str (s : Str) : decodePath (.str s) = .ok (.path (normPath s)) := rfl
theorem decodeInt_str {s : Str} {n : Int} (ha : isAscii s = true) (hp : parseInt s = some n) :
    decodeInt (.str s) = .ok (.int n) := by
  simp only [decodeInt, ha, Bool.not_true, Bool.false_eq_true, ↓reduceIte, hp]
theorem decodeInt_str_showInt (n : Int) : decodeInt (.str (showInt n)) = .ok (.int n) :=
  decodeInt_str (isAscii_showInt n) (parseInt_showInt n)

end SpVerif.Serial
