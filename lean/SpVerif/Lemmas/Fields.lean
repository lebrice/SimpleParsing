/-
  SpVerif.Lemmas.Fields — `Model/Fields` taken apart once.  `FieldWrapper.get_arg_options` (`argOptions`) decides
  three things by separate rules: the parsing shape of the annotation (`argShape`), `required`, and the `default=`
  (`argDefault`); `argOptions_eq` says so, and no proof elsewhere unfolds `argOptions`.  Then what `postprocess` does
  per annotation, and what `fieldAct` copies from the answer into the argparse action.
-/
import SpVerif.Model.Fields
namespace SpVerif

/-- `get_arg_options` never makes these required: an `Optional[...]` annotation or a default of `None` -/
def softField (f : FieldSpec) : Bool := f.ty.optional || decide (f.default = .value (.sc .none))

/-- an Enum member handed to argparse as `default=` goes by its name (field_wrapper.py:353-361) -/
def enumByName : Val → Val
  | .sc (.enum _ n) => .sc (.str n)
  | v => v

/-- the `default=` handed to argparse: the field default, an Enum member by its name -/
def argDefault (f : FieldSpec) : Val :=
  match f.ty.inner, f.ty.optional with
  | .sc (.base (.enum _ _)), false => enumByName (defaultVal f.default)
  | _, _ => defaultVal f.default

/-- `nargs`, `type=`, `choices` and whether the action is the boolean one, per annotation (the
    annotation is matched before the `Optional` flag, so a known annotation computes for either flag) -/
def argShape (f : FieldSpec) : Option (NArgs × Conv × Option (List Str) × Bool) :=
  match f.ty.inner, f.ty.optional with
  | .literal vals, false => (vals.mapM literalName).map (fun names => (.one, .base .str, some names, false))
  | .literal _, true => none
  | .tuple items, _ => (tupleConv items).map (fun c => (.num items.length, c, none, false))
  | .vtuple item, _ => some (.star, convOfItem item, none, false)
  | .list item, _ => (containerConv item).map (fun c => (.star, c, none, false))
  | .sc t, _ =>
    if softField f then some (.opt, convOfItem t, none, false)
    else match t with
      | .base (.enum _ members) => some (.one, .base .str, some members, false)
      | .base .bool => some (.opt, .base .bool, none, true)
      | t => some (.one, convOfItem t, none, false)

theorem softField_iff {f : FieldSpec} :
    softField f = true ↔ f.ty.optional = true ∨ f.default = .value (.sc .none) := by
  rw [softField, Bool.or_eq_true, decide_eq_true_eq]

theorem enumByName_of_ne {v : Val} (h : ∀ c n, v ≠ .sc (.enum c n)) : enumByName v = v := by
  unfold enumByName
  split
  · exact absurd rfl (h _ _)
  · rfl

theorem argDefault_eq (f : FieldSpec) (h : ∀ c n, defaultVal f.default ≠ .sc (.enum c n)) :
    argDefault f = defaultVal f.default := by
  unfold argDefault
  split
  · exact enumByName_of_ne h
  · rfl

theorem argDefault_of_ty {f : FieldSpec}
    (h : ∀ c ms, f.ty.inner = .sc (.base (.enum c ms)) → f.ty.optional = true) :
    argDefault f = defaultVal f.default := by
  unfold argDefault
  split
  · next c ms hi ho => exact absurd ((h c ms hi).symm.trans ho) nofun
  · rfl

/-- a soft non-Optional Enum field has the default `None`, which has no name to go by -/
theorem argDefault_soft {f : FieldSpec} (h : softField f = true) : argDefault f = defaultVal f.default := by
  unfold argDefault
  split
  · next ho =>
    have hd : f.default = .value (.sc .none) := by simpa [softField, ho] using h
    rw [hd]
    rfl
  · rfl

theorem argShape_sc {f : FieldSpec} {t : ITy} (hin : f.ty.inner = .sc t) :
    argShape f = if softField f then some (.opt, convOfItem t, none, false)
      else match t with
        | .base (.enum _ members) => some (.one, .base .str, some members, false)
        | .base .bool => some (.opt, .base .bool, none, true)
        | t => some (.one, convOfItem t, none, false) := by
  unfold argShape
  rw [hin]

theorem argOptions_eq (f : FieldSpec) :
    argOptions f = (argShape f).map (fun s =>
      { nargs := s.1, conv := s.2.1, choices := s.2.2.1,
        required := decide (f.default = .missing) && !softField f,
        default := argDefault f, isBool := s.2.2.2 }) := by
  obtain ⟨name, ⟨inner, o⟩, d, al⟩ := f
  cases inner with
  | literal vals =>
    cases o
    · simp only [argOptions, argShape, softField, argDefault, Option.map_map, Bool.false_or]
      rfl
    · rfl
  | tuple items =>
    simp only [argOptions, argShape, softField, argDefault, Option.map_map]
    cases o || decide (d = .value (.sc .none)) <;> simp [Function.comp_def]
  | vtuple item =>
    simp only [argOptions, argShape, softField, argDefault, Option.map_some]
    cases o || decide (d = .value (.sc .none)) <;> simp
  | list item =>
    simp only [argOptions, argShape, softField, argDefault, Option.map_map]
    cases o || decide (d = .value (.sc .none)) <;> simp [Function.comp_def]
  | sc t =>
    simp only [argOptions, argShape]
    by_cases hs : softField ⟨name, ⟨.sc t, o⟩, d, al⟩ = true
    · have hs' : (o || decide (d = .value (.sc .none))) = true := hs
      rw [if_pos hs, if_pos hs', hs, argDefault_soft hs]
      simp only [Option.map_some, Bool.not_true, Bool.and_false]
    · have hs' : ¬ (o || decide (d = .value (.sc .none))) = true := hs
      rw [if_neg hs, if_neg hs']
      simp only [Bool.not_eq_true] at hs
      rw [hs, Bool.not_false, Bool.and_true]
      have ho : o = false := by cases o <;> simp_all [softField]
      subst ho
      rcases t with b | alts
      · cases b <;> rfl
      · rfl

theorem argOptions_some {f : FieldSpec} {ao : ArgOpts} (hao : argOptions f = some ao) :
    argShape f = some (ao.nargs, ao.conv, ao.choices, ao.isBool) ∧
      ao.required = (decide (f.default = .missing) && !softField f) ∧ ao.default = argDefault f := by
  rw [argOptions_eq] at hao
  obtain ⟨s, hs, rfl⟩ := Option.map_eq_some_iff.mp hao
  exact ⟨hs, rfl, rfl⟩

theorem argOptions_of_shape {f : FieldSpec} {n : NArgs} {c : Conv} {ch : Option (List Str)} {b : Bool}
    (hs : argShape f = some (n, c, ch, b)) :
    argOptions f = some
      { nargs := n, conv := c, choices := ch, required := decide (f.default = .missing) && !softField f,
        default := argDefault f, isBool := b } := by
  rw [argOptions_eq, hs]
  rfl

theorem argOptions_required {f : FieldSpec} {ao : ArgOpts} (hao : argOptions f = some ao)
    (h : ao.required = true) : f.default = .missing ∧ f.ty.optional = false := by
  rw [(argOptions_some hao).2.1] at h
  simp only [softField, Bool.and_eq_true, decide_eq_true_eq, Bool.not_eq_true',
    Bool.or_eq_false_iff] at h
  exact ⟨h.1, h.2.1⟩

theorem postprocess_sc (f : FieldSpec) (s : Scalar) (hs : ∀ x, s ≠ .str x) :
    postprocess f (.sc s) = .ok (.sc s) := by
  unfold postprocess
  -- the Enum, Literal and Path arms look at the raw value, and only for a string
  split <;> first
    | rfl
    | (split
       · exact absurd (Val.sc.inj ‹_›) (hs _)
       · rfl)

theorem postprocess_tuple {f : FieldSpec} {items : List ITy} (hin : f.ty.inner = .tuple items)
    (raw : Val) : postprocess f raw = .ok (listToTuple raw) := by
  unfold postprocess; rw [hin]; cases f.ty.optional <;> rfl

theorem postprocess_vtuple {f : FieldSpec} {item : ITy} (hin : f.ty.inner = .vtuple item)
    (raw : Val) : postprocess f raw = .ok (listToTuple raw) := by
  unfold postprocess; rw [hin]; cases f.ty.optional <;> rfl

theorem postprocess_list {f : FieldSpec} {item : ITy} (hin : f.ty.inner = .list item)
    (l : List Scalar) : postprocess f (.list l) = .ok (.list l) := by
  unfold postprocess; rw [hin]; cases f.ty.optional <;> rfl

theorem postprocess_optional {f : FieldSpec} (hopt : f.ty.optional = true)
    (hin : (∃ t, f.ty.inner = .sc t) ∨ ∃ vals, f.ty.inner = .literal vals) (raw : Val) :
    postprocess f raw = .ok raw := by
  unfold postprocess
  rcases hin with ⟨t, hin⟩ | ⟨vals, hin⟩ <;> rw [hopt, hin]

theorem postprocess_literal {f : FieldSpec} {vals : List Scalar} (hopt : f.ty.optional = false)
    (hin : f.ty.inner = .literal vals) (s : Str) :
    postprocess f (.sc (.str s)) =
      match vals.reverse.find? (fun v => literalName v = some s) with
      | some v => .ok (.sc v)
      | none => .raise "KeyError".toList := by
  unfold postprocess; rw [hopt, hin]; rfl

theorem postprocess_enum_mem {f : FieldSpec} {cls : Str} {ms : List Str} {s : Str}
    (hopt : f.ty.optional = false) (hin : f.ty.inner = .sc (.base (.enum cls ms)))
    (hs : ms.contains s = true) : postprocess f (.sc (.str s)) = .ok (.sc (.enum cls s)) := by
  unfold postprocess; rw [hopt, hin]; simp only [hs, ↓reduceIte]

theorem fieldAct_inv {cfg : Cfg} {dest : Str} {f : FieldSpec} {a : Act}
    (h : fieldAct cfg dest f = some a) :
    ∃ ao negs, argOptions f = some ao ∧ a.dest = dest ++ '.' :: f.name ∧
      a.kind = (if ao.isBool then .boolOpt negs else .store) ∧ a.nargs = ao.nargs ∧
      a.conv = ao.conv ∧ a.choices = ao.choices ∧ a.required = ao.required ∧
      a.default = some ao.default := by
  unfold fieldAct at h
  obtain ⟨ao, hao, rfl⟩ := Option.map_eq_some_iff.mp h
  exact ⟨ao, _, hao, rfl, rfl, rfl, rfl, rfl, rfl, rfl⟩

end SpVerif
