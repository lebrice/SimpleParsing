/-
  Lemmas about the shared vocabulary of `Model/Core` and `Model/Naming` (`splitOnChar`, `joinWith`,
  `startsWith`, `dedup`, `sortByLen`, the generated option strings), and facts about core `List` that
  core does not state.
-/
import SpVerif.Model.Naming
namespace SpVerif

theorem lookup_mem {α β : Type _} [BEq α] [LawfulBEq α] {l : List (α × β)} {k : α} {v : β}
    (h : l.lookup k = some v) : (k, v) ∈ l := by
  obtain ⟨l₁, l₂, rfl, _⟩ := List.lookup_eq_some_iff.mp h
  exact List.mem_append_right _ List.mem_cons_self

theorem nodup_map_inj {α β : Type _} {f : α → β} {l : List α} (h : (l.map f).Nodup) {x y : α}
    (hx : x ∈ l) (hy : y ∈ l) (he : f x = f y) : x = y :=
  have hp := List.pairwise_map.mp h
  List.Pairwise.forall_of_forall_of_flip (R := fun a b => f a = f b → a = b) (fun _ _ _ => rfl)
    (hp.imp fun hne he => absurd he hne) (hp.imp fun hne he => absurd he.symm hne) hx hy he

theorem foldl_insert_perm {α : Type _} (ins : α → List α → List α)
    (hins : ∀ x l, (ins x l).Perm (x :: l)) (l acc : List α) :
    (l.foldl (fun acc x => ins x acc) acc).Perm (acc ++ l) := by
  induction l generalizing acc with
  | nil => rw [List.append_nil]; exact .refl _
  | cons x xs ih =>
    exact (ih _).trans (((hins x acc).append_right xs).trans List.perm_middle.symm)

theorem splitOnChar_ne_nil (sep : Char) (s : Str) : splitOnChar sep s ≠ [] := by
  cases s with
  | nil => exact List.cons_ne_nil _ _
  | cons c cs =>
    rw [splitOnChar]
    split
    · exact List.cons_ne_nil _ _
    · split <;> exact List.cons_ne_nil _ _

theorem splitOnChar_cons (sep c : Char) (cs : Str) :
    ∃ p ps, splitOnChar sep cs = p :: ps ∧
      splitOnChar sep (c :: cs) = if c = sep then [] :: p :: ps else (c :: p) :: ps := by
  obtain ⟨p, ps, hs⟩ := List.exists_cons_of_ne_nil (splitOnChar_ne_nil sep cs)
  exact ⟨p, ps, hs, by rw [splitOnChar, hs]⟩

theorem joinWith_cons_cons (sep : Char) (p q : Str) (r : List Str) :
    joinWith sep (p :: q :: r) = p ++ sep :: joinWith sep (q :: r) := rfl

theorem joinWith_head_append (sep : Char) (a p : Str) (ps : List Str) :
    joinWith sep ((a ++ p) :: ps) = a ++ joinWith sep (p :: ps) := by
  cases ps with
  | nil => rfl
  | cons q r => exact List.append_assoc a p _

theorem splitOnChar_of_not_mem (sep : Char) (s : Str) (h : sep ∉ s) : splitOnChar sep s = [s] := by
  induction s with
  | nil => rfl
  | cons c cs ih =>
    rw [List.mem_cons, not_or] at h
    rw [splitOnChar, if_neg (Ne.symm h.1), ih h.2]

theorem splitOnChar_append_sep (sep : Char) (s t : Str) :
    splitOnChar sep (s ++ sep :: t) = splitOnChar sep s ++ splitOnChar sep t := by
  induction s with
  | nil => exact (splitOnChar.eq_2 sep sep t).trans (if_pos rfl)
  | cons c cs ih =>
    obtain ⟨p, ps, hs, e⟩ := splitOnChar_cons sep c cs
    rw [e, List.cons_append, splitOnChar, ih, hs]
    split <;> rfl

theorem splitOnChar_append_sep_of_not_mem (sep : Char) (s t : Str) (h : sep ∉ s) :
    splitOnChar sep (s ++ sep :: t) = s :: splitOnChar sep t := by
  rw [splitOnChar_append_sep, splitOnChar_of_not_mem sep s h]
  rfl

theorem joinWith_splitOnChar (sep : Char) (s : Str) : joinWith sep (splitOnChar sep s) = s := by
  induction s with
  | nil => rfl
  | cons c cs ih =>
    obtain ⟨p, ps, hs, e⟩ := splitOnChar_cons sep c cs
    rw [hs] at ih
    rw [e]
    split
    · next h => rw [joinWith_cons_cons, ih, h]; rfl
    · exact (joinWith_head_append sep [c] p ps).trans (congrArg (c :: ·) ih)

theorem joinWith_append_singleton (sep : Char) (x : Str) (xs : List Str) (y : Str) :
    joinWith sep (x :: (xs ++ [y])) = joinWith sep (x :: xs) ++ sep :: y := by
  induction xs generalizing x with
  | nil => rfl
  | cons q r ih =>
    rw [List.cons_append, joinWith_cons_cons, ih q, joinWith_cons_cons, List.append_assoc]
    rfl

theorem startsWith_append_self (a b : Str) : startsWith (a ++ b) a = true := by
  induction a with
  | nil => cases b <;> rfl
  | cons c cs ih => rw [List.cons_append, startsWith, beq_self_eq_true, ih]; rfl

theorem startsWith_self (s : Str) : startsWith s s = true := by
  simpa using startsWith_append_self s []

theorem mem_dedup {α : Type _} [BEq α] [LawfulBEq α] {l : List α} {x : α} :
    x ∈ dedup l ↔ x ∈ l := by
  induction l with
  | nil => exact .rfl
  | cons y ys ih =>
    rw [dedup, List.mem_cons, List.mem_cons, List.mem_filter, ih]
    by_cases hxy : x = y
    · exact iff_of_true (.inl hxy) (.inl hxy)
    · exact or_congr_right (and_iff_left (by simpa using hxy))

theorem nodup_dedup {α : Type _} [BEq α] [LawfulBEq α] (l : List α) : (dedup l).Nodup := by
  induction l with
  | nil => exact List.nodup_nil
  | cons a r ih =>
    rw [dedup, List.nodup_cons, List.mem_filter]
    exact ⟨fun h => by simpa using h.2, ih.filter _⟩

theorem insertByLen_perm (x : Str) (l : List Str) : (insertByLen x l).Perm (x :: l) := by
  induction l with
  | nil => exact .refl _
  | cons y ys ih =>
    rw [insertByLen]
    split
    · exact .refl _
    · exact (ih.cons y).trans (.swap x y ys)

theorem sortByLen_perm (l : List Str) : (sortByLen l).Perm l :=
  foldl_insert_perm insertByLen insertByLen_perm l []

theorem dashFor_head (x : Str) : (dashFor x).head? = some '-' := by
  unfold dashFor; split <;> rfl

theorem aliasPair_head (pref a : Str) : (aliasPair pref a).1.head? = some '-' := by
  unfold aliasPair
  split
  · rfl
  · rfl
  · exact dashFor_head _

theorem basePairs_head (cfg : Cfg) (fw : FW) : ∀ p ∈ basePairs cfg fw, p.1.head? = some '-' := by
  simp only [basePairs, List.forall_mem_append, List.forall_mem_map, dashFor_head, aliasPair_head,
    implies_true, true_and, and_true]
  split
  · exact List.forall_mem_map.mpr fun _ _ => rfl
  · exact fun _ h => nomatch h

theorem extraPairs_head (cfg : Cfg) (fw : FW) : ∀ p ∈ extraPairs cfg fw, p.1.head? = some '-' := by
  unfold extraPairs
  split
  · exact List.forall_mem_map.mpr fun _ _ => dashFor_head _
  · exact fun _ h => nomatch h

theorem optionList_head (cfg : Cfg) (fw : FW) (hpos : fw.positional = false) :
    ∀ o ∈ optionList cfg fw, o.head? = some '-' := by
  rw [optionList, hpos, if_neg Bool.false_ne_true]
  refine List.forall_mem_map.mpr fun p hp => ?_
  rw [List.head?_append, (List.forall_mem_append.mpr ⟨basePairs_head cfg fw, extraPairs_head cfg fw⟩) p hp]
  rfl

theorem optionStrings_head (cfg : Cfg) (fw : FW) (hpos : fw.positional = false) :
    ∀ o ∈ optionStrings cfg fw, o.head? = some '-' := by
  intro o h
  rw [optionStrings, hpos, if_neg Bool.false_ne_true, (sortByLen_perm _).mem_iff, mem_dedup] at h
  exact optionList_head cfg fw hpos o h

end SpVerif
