/-
  SpVerif.Lemmas.Post — what each phase of `_postprocessing` (`SpVerif.Model.Post`) does to the namespace.
  Dicts are compared through `dget`: a phase either removes a set of keys (`Del`) or binds keys of a set (`Ext`).
  Each function of the three phases has one lemma `…_spec` in the form `Out.Spec`: what holds of a result, which
  exceptions are possible and why, and when the modelled fragment is left.
-/
import SpVerif.Model.Post
import SpVerif.Lemmas.Core
namespace SpVerif.Post
open SpVerif

variable {V : Type} {α β : Type}

theorem ddel_cons (a : Str) (w : V) (r : Dict V) (k' : Str) :
    ddel ((a, w) :: r) k' = if a = k' then ddel r k' else (a, w) :: ddel r k' := by
  by_cases h : a = k' <;> simp [ddel, h]

theorem dget_dset (d : Dict V) (k' k : Str) (v : V) :
    dget (dset d k' v) k = if k' = k then some v else dget d k := by
  induction d with
  | nil => rfl
  | cons kv r ih =>
    obtain ⟨a, w⟩ := kv
    by_cases h1 : a = k'
    · subst h1; by_cases h2 : a = k <;> simp [dset, dget, h2]
    · by_cases h2 : a = k
      · subst h2; simp [dset, dget, h1, Ne.symm h1]
      · simp [dset, dget, h1, h2, ih]

theorem dget_ddel (d : Dict V) (k' k : Str) : dget (ddel d k') k = if k' = k then none else dget d k := by
  induction d with
  | nil => simp [ddel, dget]
  | cons kv r ih =>
    obtain ⟨a, w⟩ := kv
    by_cases h1 : a = k'
    · subst h1
      by_cases h2 : a = k
      · subst h2; simp [ddel_cons, ih]
      · simp [ddel_cons, dget, h2, ih]
    · by_cases h2 : a = k
      · subst h2; simp [ddel_cons, dget, h1, Ne.symm h1]
      · simp [ddel_cons, dget, h1, h2, ih]

theorem mem_dkeys_iff (d : Dict V) (k : Str) : k ∈ dkeys d ↔ dget d k ≠ none := by
  induction d with
  | nil => exact ⟨nofun, fun h => absurd rfl h⟩
  | cons kv r ih =>
    obtain ⟨a, w⟩ := kv
    rw [dget]
    refine List.mem_cons.trans ?_
    by_cases ha : a = k
    · rw [if_pos ha]; exact ⟨fun _ => nofun, fun _ => Or.inl ha.symm⟩
    · rw [if_neg ha]; exact ⟨fun h => ih.mp (h.resolve_left (Ne.symm ha)), fun h => Or.inr (ih.mpr h)⟩

theorem dget_eq_none {d : Dict V} {k : Str} : dget d k = none ↔ k ∉ dkeys d := by
  rw [mem_dkeys_iff, Decidable.not_not]

theorem dhas_iff (d : Dict V) (k : Str) : dhas d k = true ↔ k ∈ dkeys d := by
  simp [dhas]

theorem dhas_eq_false {d : Dict V} {k : Str} (h : k ∉ dkeys d) : dhas d k = false :=
  Bool.eq_false_iff.mpr fun c => h ((dhas_iff d k).mp c)

theorem dkeys_dset_of_mem (c : Dict V) (k : Str) (y : V) (h : k ∈ dkeys c) : dkeys (dset c k y) = dkeys c := by
  induction c with
  | nil => cases h
  | cons kv r ih =>
    by_cases hak : kv.1 = k
    · rw [dset, if_pos hak]; rfl
    · rw [dset, if_neg hak]
      exact congrArg (kv.1 :: ·) (ih ((List.mem_cons.mp h).resolve_left (Ne.symm hak)))

theorem dkeys_csetIn_of_mem (c : CArgs V) (p a : Str) (v : V) (h : p ∈ dkeys c) : dkeys (csetIn c p a v) = dkeys c := by
  unfold csetIn
  split <;> exact dkeys_dset_of_mem c p _ h

def Del (T : List Str) (d d' : Dict V) : Prop := ∀ k, dget d' k = if k ∈ T then none else dget d k

def Ext (T : List Str) (d d' : Dict V) : Prop :=
  (∀ k, k ∉ T → dget d' k = dget d k) ∧ ∀ k ∈ dkeys d, k ∈ dkeys d'

section
variable {T T₁ T₂ : List Str} {a b c d d' : Dict V}

namespace Del

theorem refl (d : Dict V) : Del [] d d := fun _ => rfl

theorem of_absent (h : ∀ k ∈ T, k ∉ dkeys d) : Del T d d := fun k => by
  split
  · exact dget_eq_none.mpr (h k ‹_›)
  · rfl

theorem trans (h₁ : Del T₁ a b) (h₂ : Del T₂ b c) : Del (T₁ ++ T₂) a c := by
  intro k
  rw [h₂ k, h₁ k]
  by_cases m₁ : k ∈ T₁ <;> by_cases m₂ : k ∈ T₂ <;> simp [m₁, m₂]

theorem mem_dkeys (h : Del T d d') (k : Str) : k ∈ dkeys d' ↔ k ∈ dkeys d ∧ k ∉ T := by
  rw [mem_dkeys_iff, mem_dkeys_iff, h k]
  by_cases m : k ∈ T <;> simp [m]

end Del

namespace Ext

theorem refl (T : List Str) (d : Dict V) : Ext T d d := ⟨fun _ _ => rfl, fun _ h => h⟩

theorem trans (h₁ : Ext T₁ a b) (h₂ : Ext T₂ b c) : Ext (T₁ ++ T₂) a c :=
  ⟨fun k hk => by
    rw [List.mem_append, not_or] at hk
    rw [h₂.1 k hk.2, h₁.1 k hk.1],
   fun k hk => h₂.2 k (h₁.2 k hk)⟩

theorem mem_dkeys (h : Ext T d d') {k : Str} (hk : k ∈ dkeys d') : k ∈ dkeys d ∨ k ∈ T := by
  by_cases m : k ∈ T
  · exact Or.inr m
  · rw [mem_dkeys_iff, h.1 k m, ← mem_dkeys_iff] at hk
    exact Or.inl hk

end Ext
end

theorem ddel_del (d : Dict V) (k : Str) : Del [k] d (ddel d k) := fun k' => by
  rw [dget_ddel]; simp [eq_comm]

theorem dset_ext (d : Dict V) (k : Str) (v : V) : Ext [k] d (dset d k v) ∧ k ∈ dkeys (dset d k v) := by
  refine ⟨⟨fun k' hk => ?_, fun k' hk => ?_⟩, ?_⟩
  · rw [dget_dset, if_neg (fun e => hk (by simp [e]))]
  · rw [mem_dkeys_iff, dget_dset]
    split
    · simp
    · exact (mem_dkeys_iff d k').mp hk
  · simp [mem_dkeys_iff, dget_dset]

/-! ### destinations -/

/-- every `FieldWrapper` of the flattened wrapper list -/
def allFields (ws : List (DcW V)) : List (FieldW V) := ws.flatMap (·.fields)

/-- the namespace keys argparse writes the dataclass options to -/
def fieldDests (ws : List (DcW V)) : List Str := (allFields ws).map (·.dest)

/-- the destinations given to `add_arguments` (wrappers without a parent) -/
def rootDests (ws : List (DcW V)) : List Str := ws.flatMap (fun w => if w.hasParent then [] else w.dests)

theorem mem_subgroupDests (ws : List (DcW V)) (k : Str) :
    k ∈ subgroupDests ws ↔ ∃ f ∈ allFields ws, f.isSubgroup = true ∧ f.dest = k := by
  simp only [subgroupDests, mem_dedup, List.mem_map, List.mem_filter, allFields, and_assoc]

theorem mem_rootDests {ws : List (DcW V)} {k : Str} :
    k ∈ rootDests ws ↔ ∃ w ∈ ws, w.hasParent = false ∧ k ∈ w.dests := by
  simp only [rootDests, List.mem_flatMap]
  refine exists_congr fun w => and_congr_right fun _ => ?_
  cases w.hasParent <;> simp

/-- the namespace keys `_fill_constructor_arguments_with_fields` pops for one field (parsing.py:956-972) -/
def fieldPops (f : FieldW V) : List Str := if f.isSubgroup || !f.init then [] else [f.dest]

def popped (ws : List (DcW V)) : List Str := ws.flatMap fun w => w.fields.flatMap fieldPops

theorem mem_popped (ws : List (DcW V)) (k : Str) :
    k ∈ popped ws ↔ ∃ f ∈ allFields ws, f.isSubgroup = false ∧ f.init = true ∧ f.dest = k := by
  simp only [popped, allFields, List.mem_flatMap, fieldPops]
  constructor
  · rintro ⟨w, hw, f, hf, hk⟩
    cases hs : f.isSubgroup <;> cases hi : f.init <;> simp [hs, hi] at hk
    exact ⟨f, ⟨w, hw, hf⟩, hs, hi, hk.symm⟩
  · rintro ⟨f, ⟨w, hw, hf⟩, hs, hi, rfl⟩
    exact ⟨w, hw, f, hf, by simp [hs, hi]⟩

theorem removed_sub (ws : List (DcW V)) {k : Str} (h : k ∈ subgroupDests ws ++ popped ws) : k ∈ fieldDests ws := by
  rw [List.mem_append, mem_subgroupDests, mem_popped] at h
  obtain ⟨f, hf, _, rfl⟩ | ⟨f, hf, _, _, rfl⟩ := h <;> exact List.mem_map.mpr ⟨f, hf, rfl⟩

namespace Out

def bind : Out α → (α → Out β) → Out β
  | .ok a, f => f a
  | .raise e, _ => .raise e
  | .unmodelled y, _ => .unmodelled y

/-- what is known of an outcome: a result satisfies `Q`, an exception satisfies `E`, and the modelled fragment is
    left only if `U` -/
def Spec (x : Out α) (Q : α → Prop) (E : Exc → Prop) (U : Prop) : Prop :=
  match x with
  | .ok a => Q a
  | .raise e => E e
  | .unmodelled _ => U

variable {x : Out α} {f : α → Out β} {Q Q' : α → Prop} {R : β → Prop} {E E' : Exc → Prop} {U U' : Prop}
  {a : α} {e : Exc}

theorem Spec.of_ok (h : x.Spec Q E U) (hx : x = .ok a) : Q a := by
  subst hx; exact h

theorem Spec.of_raise (h : x.Spec Q E U) (hx : x = .raise e) : E e := by
  subst hx; exact h

theorem Spec.returns (h : x.Spec Q E U) (hE : ∀ e, ¬E e) (hU : ¬U) : ∃ a, x = .ok a ∧ Q a := by
  cases x with
  | ok a => exact ⟨a, rfl, h⟩
  | raise e => exact absurd h (hE e)
  | unmodelled y => exact absurd h hU

theorem Spec.mono (h : x.Spec Q E U) (hQ : ∀ a, Q a → Q' a) (hE : ∀ e, E e → E' e) (hU : U → U') :
    x.Spec Q' E' U' := by
  cases x with
  | ok a => exact hQ a h
  | raise e => exact hE e h
  | unmodelled y => exact hU h

theorem Spec.ite {c : Prop} [Decidable c] {y : Out α} (hx : c → x.Spec Q E U) (hy : ¬c → y.Spec Q E U) :
    (if c then x else y).Spec Q E U := by
  split
  · exact hx ‹_›
  · exact hy ‹_›

theorem Spec.bind (h : x.Spec (fun a => (f a).Spec R E U) E U) : (x.bind f).Spec R E U := by
  cases x <;> exact h

end Out

/-! ### `_remove_subgroups_from_namespace` -/

/-- Distinctness is needed for the exception clause: a repeated key is missing the second time round although the
    namespace had it. -/
theorem moveSubgroups_spec {ds : List Str} (hn : ds.Nodup) (ns sub : Dict V) :
    (moveSubgroups ds ns sub).Spec (fun r => Del ds ns r.1)
      (fun e => e = .attributeError ∧ ∃ d ∈ ds, d ∉ dkeys ns) False := by
  induction ds generalizing ns sub with
  | nil => exact Del.refl ns
  | cons d ds ih =>
    obtain ⟨hd, hn⟩ := List.nodup_cons.mp hn
    rw [moveSubgroups]
    cases hv : dget ns d with
    | none => exact ⟨rfl, d, List.mem_cons_self, dget_eq_none.mp hv⟩
    | some v =>
      refine (ih hn (ddel ns d) (dset sub d v)).mono (fun r hr => (ddel_del ns d).trans hr) ?_ id
      rintro e ⟨he, d', hd', hm⟩
      refine ⟨he, d', List.mem_cons_of_mem _ hd', fun m => hm (((ddel_del ns d).mem_dkeys d').mpr ⟨m, ?_⟩)⟩
      rw [List.mem_singleton]
      exact fun e => hd (e ▸ hd')

theorem removeSubgroups_spec (ws : List (DcW V)) (ns : Dict V) :
    (removeSubgroups ws ns).Spec
      (fun r => Del (subgroupDests ws) ns r.1 ∧ (r.2.isSome ↔ subgroupDests ws ≠ []))
      (fun e => e = .attributeError ∧ ∃ d ∈ subgroupDests ws, d ∉ dkeys ns)
      (dhas ns "subgroups".toList = true ∨ subgroupsIsRootDest ws = true) := by
  unfold removeSubgroups
  cases hsd : subgroupDests ws with
  | nil => exact ⟨Del.refl ns, by simp⟩
  | cons d ds =>
    dsimp only
    cases h1 : dhas ns "subgroups".toList with
    | true => exact Or.inl rfl
    | false =>
      cases h2 : subgroupsIsRootDest ws with
      | true => exact Or.inr rfl
      | false =>
        have hm := moveSubgroups_spec (ds := d :: ds) (hsd ▸ nodup_dedup _) ns []
        revert hm
        cases moveSubgroups (d :: ds) ns [] with
        | ok r => exact fun hm => ⟨hm, by simp⟩
        | raise e => exact id
        | unmodelled y => exact False.elim

/-! ### `_fill_constructor_arguments_with_fields` -/

theorem fillField_spec (A : Alg V) (s : Bool) (f : FieldW V) (st : Dict V × CArgs V) :
    (fillField A s f st).Spec
      (fun st' => Del (fieldPops f) st.1 st'.1 ∧
        ((∀ d ∈ f.dests, (splitDest d).1 ∈ dkeys st.2) → dkeys st'.2 = dkeys st.2))
      (fun _ => False) (∃ d d' r, f.dests = d :: d' :: r) := by
  unfold fillField fieldCall fieldPops
  cases hg : s && !(dhas st.1 f.dest) with
  | true =>
    -- skipped because the destination is absent: popping it changes nothing
    have hd : f.dest ∉ dkeys st.1 := fun m => by simp [(dhas_iff _ _).mpr m] at hg
    refine ⟨Del.of_absent fun k hk => ?_, fun _ => rfl⟩
    split at hk
    · cases hk
    · exact List.mem_singleton.mp hk ▸ hd
  | false =>
    cases f.isSubgroup with
    | true => exact ⟨Del.refl _, fun _ => rfl⟩
    | false =>
      cases f.init with
      | false => exact ⟨Del.refl _, fun _ => rfl⟩
      | true =>
        rcases f.dests with _ | ⟨d, _ | ⟨d', r⟩⟩
        · exact ⟨ddel_del _ _, fun _ => rfl⟩
        · exact ⟨ddel_del _ _, fun h => dkeys_csetIn_of_mem _ _ _ _ (h d List.mem_cons_self)⟩
        · exact ⟨d, d', r, rfl⟩

theorem fillFields_spec (A : Alg V) (s : Bool) (fs : List (FieldW V)) (st : Dict V × CArgs V) :
    (fillFields A s fs st).Spec
      (fun st' => Del (fs.flatMap fieldPops) st.1 st'.1 ∧
        ((∀ f ∈ fs, ∀ d ∈ f.dests, (splitDest d).1 ∈ dkeys st.2) → dkeys st'.2 = dkeys st.2))
      (fun _ => False) (∃ f ∈ fs, ∃ d d' r, f.dests = d :: d' :: r) := by
  induction fs generalizing st with
  | nil => exact ⟨Del.refl _, fun _ => rfl⟩
  | cons f fs ih =>
    rw [fillFields]
    have h1 := fillField_spec A s f st
    revert h1
    cases fillField A s f st with
    | ok st1 =>
      rintro ⟨a1, a2⟩
      refine (ih st1).mono (fun st' b => ⟨a1.trans b.1, fun hp => ?_⟩) (fun _ => id)
        (fun ⟨x, hx, h⟩ => ⟨x, List.mem_cons_of_mem _ hx, h⟩)
      have k1 := a2 (hp f List.mem_cons_self)
      exact (b.2 fun x hx => k1 ▸ hp x (List.mem_cons_of_mem _ hx)).trans k1
    | raise e => exact False.elim
    | unmodelled y => exact fun h => ⟨f, List.mem_cons_self, h⟩

theorem fillWrappers_spec (A : Alg V) (ws : List (DcW V)) (st : Dict V × CArgs V) :
    (fillWrappers A ws st).Spec
      (fun st' => Del (popped ws) st.1 st'.1 ∧
        ((∀ f ∈ allFields ws, ∀ d ∈ f.dests, (splitDest d).1 ∈ dkeys st.2) → dkeys st'.2 = dkeys st.2))
      (fun _ => False) (∃ f ∈ allFields ws, ∃ d d' r, f.dests = d :: d' :: r) := by
  induction ws generalizing st with
  | nil => exact ⟨Del.refl _, fun _ => rfl⟩
  | cons w ws ih =>
    rw [fillWrappers]
    have h1 := fillFields_spec A w.suppress w.fields st
    revert h1
    cases fillFields A w.suppress w.fields st with
    | ok st1 =>
      rintro ⟨a1, a2⟩
      refine (ih st1).mono (fun st' b => ⟨a1.trans b.1, fun hp => ?_⟩) (fun _ => id)
        (fun ⟨x, hx, h⟩ => ⟨x, List.mem_append_right _ hx, h⟩)
      have k1 := a2 fun x hx => hp x (List.mem_append_left _ hx)
      exact (b.2 fun x hx => k1 ▸ hp x (List.mem_append_right _ hx)).trans k1
    | raise e => exact False.elim
    | unmodelled y => exact fun ⟨x, hx, h⟩ => ⟨x, List.mem_append_left _ hx, h⟩

/-! ### `_create_dataclass_instance`: the `Optional[dataclass]` rule after fixes 3f531df / f635f07 (`_is_at_default`) -/

def constructOut (A : Alg V) (w : DcW V) (args : Dict V) : Out V :=
  match A.construct w.ctor args with
  | some v => .ok v
  | none => .raise .ctorError

/-- `createInstance` with the `let` unfolded -/
theorem createInstance_eq (A : Alg V) (w : DcW V) (args : Dict V) :
    createInstance A w args =
      if w.optNone then
        match allAtDefault A args w.fields with
        | none => .raise .keyError
        | some true =>
          if w.children.all (fun c => match dget args c.name with
                                      | some x => c.atDefault A x
                                      | none => true)
          then .ok A.none else constructOut A w args
        | some false => constructOut A w args
      else constructOut A w args := by
  rfl

/-- the only exceptions: `constructor_args[name]` in the `Optional` rule (parsing.py:1147) and the constructor's own -/
theorem createInstance_spec (A : Alg V) (w : DcW V) (args : Dict V) :
    (createInstance A w args).Spec (fun _ => True)
      (fun e => e = .keyError ∧ w.optNone = true ∨ e = .ctorError ∧ A.construct w.ctor args = none) False := by
  have hc : (constructOut A w args).Spec (fun _ => True)
      (fun e => e = .keyError ∧ w.optNone = true ∨ e = .ctorError ∧ A.construct w.ctor args = none) False := by
    unfold constructOut
    cases A.construct w.ctor args with
    | none => exact Or.inr ⟨rfl, rfl⟩
    | some v => trivial
  rw [createInstance_eq]
  refine Out.Spec.ite (fun ho => ?_) fun _ => hc
  cases allAtDefault A args w.fields with
  | none => exact Or.inl ⟨rfl, ho⟩
  | some b =>
    cases b with
    | false => exact hc
    | true => exact Out.Spec.ite (fun _ => trivial) fun _ => hc

theorem createInstance_not_optNone (A : Alg V) (w : DcW V) (args : Dict V) (h : w.optNone = false) :
    createInstance A w args = constructOut A w args := by
  rw [createInstance_eq, h]; rfl

theorem createInstance_field_changed (A : Alg V) (w : DcW V) (args : Dict V)
    (h : allAtDefault A args w.fields = some false) :
    createInstance A w args = constructOut A w args := by
  rw [createInstance_eq, h]; cases w.optNone <;> rfl

theorem createInstance_child_changed (A : Alg V) (w : DcW V) (args : Dict V)
    (hf : allAtDefault A args w.fields = some true)
    (c : ChildW V) (hc : c ∈ w.children) (x : V) (hx : dget args c.name = some x)
    (hnd : c.atDefault A x = false) :
    createInstance A w args = constructOut A w args := by
  have hall : (w.children.all (fun c => match dget args c.name with
                                        | some x => c.atDefault A x
                                        | none => true)) = false := by
    rw [List.all_eq_false]
    exact ⟨c, hc, by rw [hx]; exact ne_true_of_eq_false hnd⟩
  rw [createInstance_eq, hf, hall]; cases w.optNone <;> rfl

theorem createInstance_all_default (A : Alg V) (w : DcW V) (args : Dict V) (ho : w.optNone = true)
    (hf : allAtDefault A args w.fields = some true)
    (hc : ∀ c ∈ w.children, ∀ x, dget args c.name = some x → c.atDefault A x = true) :
    createInstance A w args = .ok A.none := by
  have hall : (w.children.all (fun c => match dget args c.name with
                                        | some x => c.atDefault A x
                                        | none => true)) = true := by
    rw [List.all_eq_true]
    intro c hcm
    cases hx : dget args c.name with
    | none => rfl
    | some x => exact hc c hcm x hx
  rw [createInstance_eq, hf, hall, ho]; rfl

theorem atDefault_false_of_field (A : Alg V) (n : Str) (fs : List (FieldW V)) (cs : List (ChildW V)) (v : V) (d : Dict V)
    (hn : A.isNone v = false) (ha : A.attrs v = some d) (hfd : fieldsAtDefault A d fs = false) :
    (ChildW.mk n fs cs).atDefault A v = false := by
  simp [ChildW.atDefault, hn, ha, hfd]

/-- a change anywhere below: the nested member of a nested member is not at default ⇒ neither is the nested member -/
theorem atDefault_false_of_child (A : Alg V) (n : Str) (fs : List (FieldW V)) (cs : List (ChildW V)) (v : V) (d : Dict V)
    (hn : A.isNone v = false) (ha : A.attrs v = some d) (hcd : ChildW.allAtDefault A d cs = false) :
    (ChildW.mk n fs cs).atDefault A v = false := by
  simp [ChildW.atDefault, hn, ha, hcd]

def createInstanceOld (A : Alg V) (w : DcW V) (args : Dict V) : Out V :=
  if w.optNone then
    match allAtDefault A args w.fields with
    | none => .raise .keyError
    | some true => .ok A.none
    | some false => constructOut A w args
  else constructOut A w args

/-- the rule before the fixes never looked at the nested members: whatever was built below, the member is dropped -/
theorem createInstanceOld_ignores_children (A : Alg V) (w : DcW V) (args : Dict V) (ho : w.optNone = true)
    (hf : allAtDefault A args w.fields = some true) :
    createInstanceOld A w args = .ok A.none := by
  simp [createInstanceOld, ho, hf]

/-! ### `_instantiate_dataclasses` -/

/-- the value built for one destination; `none` = the destination is dropped (parsing.py:856-871) -/
def instValue (A : Alg V) (w : DcW V) (args : Dict V) : Out (Option V) :=
  if w.suppress then .ok (if args.isEmpty then none else some (A.dict args))
  else (createInstance A w args).bind fun v => .ok (some v)

/-- where the value goes: into the parent's constructor arguments or into the namespace (parsing.py:873-898) -/
def instPlace (dk : List Str) (w : DcW V) (d : Str) (st : Dict V × CArgs V) : Option V → Out (Dict V × CArgs V)
  | none => .ok st
  | some v =>
    if w.hasParent then .ok (st.1, csetIn st.2 (splitDest d).1 (splitDest d).2 v)
    else if !(dhas st.1 d) then .ok (dset st.1 d v, st.2)
    else if dk.contains w.dest then .ok (dset st.1 d v, st.2)
    else .raise .runtimeError

theorem instDest_eq (A : Alg V) (dk : List Str) (w : DcW V) (d : Str) (st : Dict V × CArgs V) :
    instDest A dk w d st =
      match dget st.2 d with
      | none => .raise .keyError
      | some args => (instValue A w args).bind (instPlace dk w d (st.1, ddel st.2 d)) := by
  unfold instDest instValue
  cases dget st.2 d with
  | none => rfl
  | some args =>
    dsimp only
    cases w.suppress with
    | true => cases args.isEmpty <;> rfl
    | false => cases createInstance A w args <;> rfl

theorem instValue_spec (A : Alg V) (w : DcW V) (args : Dict V) :
    (instValue A w args).Spec (fun o => w.suppress = false → o.isSome = true)
      (fun e => e = .keyError ∧ w.optNone = true ∨ e = .ctorError ∧ A.construct w.ctor args = none) False := by
  unfold instValue
  refine Out.Spec.ite (fun hs hs' => absurd (hs.symm.trans hs') nofun) fun _ => ?_
  exact Out.Spec.bind ((createInstance_spec A w args).mono (fun _ _ _ => rfl) (fun _ => id) id)

theorem instPlace_spec (dk : List Str) (w : DcW V) (d : Str) (st : Dict V × CArgs V) (o : Option V) :
    (instPlace dk w d st o).Spec
      (fun st' => Ext (if w.hasParent then [] else [d]) st.1 st'.1 ∧
        (w.hasParent = false → o.isSome = true → d ∈ dkeys st'.1) ∧
        ((w.hasParent = true → (splitDest d).1 ∈ dkeys st.2) → dkeys st'.2 = dkeys st.2))
      (fun e => e = .runtimeError ∧ w.hasParent = false ∧ d ∈ dkeys st.1) False := by
  cases o with
  | none => exact ⟨Ext.refl _ _, fun _ c => (by cases c), fun _ => rfl⟩
  | some v =>
    have hset := dset_ext st.1 d v
    unfold instPlace
    cases w.hasParent with
    | true => exact ⟨Ext.refl _ _, fun c => (by cases c), fun h => dkeys_csetIn_of_mem _ _ _ _ (h rfl)⟩
    | false =>
      cases hd : dhas st.1 d with
      | false => exact ⟨hset.1, fun _ _ => hset.2, fun _ => rfl⟩
      | true =>
        cases dk.contains w.dest with
        | false => exact ⟨rfl, rfl, (dhas_iff _ _).mp hd⟩
        | true => exact ⟨hset.1, fun _ _ => hset.2, fun _ => rfl⟩

/-- One destination.  A `RuntimeError` needs a parentless wrapper whose destination is already an attribute; any other
    exception a destination without constructor arguments, an `Optional` wrapper or a constructor that raises. -/
theorem instDest_spec (A : Alg V) (dk : List Str) (w : DcW V) (d : Str) (st : Dict V × CArgs V) :
    (instDest A dk w d st).Spec
      (fun st' => Ext (if w.hasParent then [] else [d]) st.1 st'.1 ∧
        (w.hasParent = false → w.suppress = false → d ∈ dkeys st'.1) ∧
        ((w.hasParent = true → (splitDest d).1 ∈ dkeys (ddel st.2 d)) → dkeys st'.2 = dkeys (ddel st.2 d)))
      (fun e => e = .runtimeError ∧ w.hasParent = false ∧ d ∈ dkeys st.1 ∨
        e ≠ .runtimeError ∧ (d ∈ dkeys st.2 → w.optNone = false → ∃ args, A.construct w.ctor args = none)) False := by
  rw [instDest_eq]
  cases hg : dget st.2 d with
  | none => exact Or.inr ⟨nofun, fun m => absurd hg ((mem_dkeys_iff _ _).mp m)⟩
  | some args =>
    refine Out.Spec.bind ((instValue_spec A w args).mono (fun o ho => ?_) (fun e he => Or.inr ?_) id)
    · exact (instPlace_spec dk w d (st.1, ddel st.2 d) o).mono
        (fun st' h => ⟨h.1, fun hp hs => h.2.1 hp (ho hs), h.2.2⟩) (fun e => Or.inl) id
    · rcases he with ⟨rfl, ho⟩ | ⟨rfl, hc⟩
      · exact ⟨nofun, fun _ ho' => absurd ho (by simp [ho'])⟩
      · exact ⟨nofun, fun _ _ => ⟨args, hc⟩⟩

theorem instDests_spec (A : Alg V) (dk : List Str) (w : DcW V) (ds : List Str) (st : Dict V × CArgs V) :
    (instDests A dk w ds st).Spec
      (fun st' => Ext (if w.hasParent then [] else ds) st.1 st'.1 ∧
        (w.hasParent = false → w.suppress = false → ∀ d ∈ ds, d ∈ dkeys st'.1))
      (fun e => e = .runtimeError → w.hasParent = false ∧ ¬((∀ d ∈ ds, d ∉ dkeys st.1) ∧ ds.Nodup)) False := by
  induction ds generalizing st with
  | nil => exact ⟨by cases w.hasParent <;> exact Ext.refl _ _, fun _ _ _ hx => nomatch hx⟩
  | cons d ds ih =>
    rw [instDests]
    have h1 := instDest_spec A dk w d st
    revert h1
    cases instDest A dk w d st with
    | unmodelled y => exact id
    | raise e =>
      rintro (⟨_, hp, hm⟩ | ⟨hne, _⟩) he
      · exact ⟨hp, fun h => h.1 d List.mem_cons_self hm⟩
      · exact absurd he hne
    | ok st1 =>
      rintro ⟨a1, a2, _⟩
      refine (ih st1).mono (fun st' b => ⟨?_, fun hp hs x hx => ?_⟩) (fun e he hr => ?_) id
      · have := a1.trans b.1
        revert this
        cases w.hasParent <;> exact id
      · rcases List.mem_cons.mp hx with rfl | hx
        · exact b.1.2 _ (a2 hp hs)
        · exact b.2 hp hs x hx
      · obtain ⟨hp, hcol⟩ := he hr
        rw [hp] at a1
        refine ⟨hp, fun h => hcol ⟨fun d' hd' hm => ?_, (List.nodup_cons.mp h.2).2⟩⟩
        -- a key of the next state was there before or is `d`, which does not occur again
        rcases a1.mem_dkeys hm with c | c
        · exact h.1 d' (List.mem_cons_of_mem _ hd') c
        · exact (List.nodup_cons.mp h.2).1 (List.mem_singleton.mp c ▸ hd')

theorem instWrappers_spec (A : Alg V) (dk : List Str) (ws : List (DcW V)) (st : Dict V × CArgs V) :
    (instWrappers A dk ws st).Spec
      (fun st' => Ext (rootDests ws) st.1 st'.1 ∧
        ∀ w ∈ ws, w.hasParent = false → w.suppress = false → ∀ d ∈ w.dests, d ∈ dkeys st'.1)
      (fun e => e = .runtimeError → ¬((∀ d ∈ rootDests ws, d ∉ dkeys st.1) ∧ (rootDests ws).Nodup)) False := by
  induction ws generalizing st with
  | nil => exact ⟨Ext.refl _ _, fun _ hw => nomatch hw⟩
  | cons w ws ih =>
    have hroot : rootDests (w :: ws) = (if w.hasParent then [] else w.dests) ++ rootDests ws := rfl
    rw [instWrappers, hroot]
    have h1 := instDests_spec A dk w w.dests st
    revert h1
    cases instDests A dk w w.dests st with
    | unmodelled y => exact id
    | raise e =>
      intro h1 he h
      obtain ⟨hp, hcol⟩ := h1 he
      rw [hp] at h
      exact hcol ⟨fun d hd => h.1 d (List.mem_append_left _ hd), (List.nodup_append.mp h.2).1⟩
    | ok st1 =>
      rintro ⟨a1, a2⟩
      refine (ih st1).mono (fun st' b => ⟨a1.trans b.1, fun x hx hp hs d hd => ?_⟩) (fun e he hr h => ?_) id
      · rcases List.mem_cons.mp hx with rfl | hx
        · exact b.1.2 _ (a2 hp hs d hd)
        · exact b.2 x hx hp hs d hd
      · obtain ⟨n1, n2, n3⟩ := List.nodup_append.mp h.2
        refine he hr ⟨fun d hd hm => ?_, n2⟩
        rcases a1.mem_dkeys hm with c | c
        · exact h.1 d (List.mem_append_right _ hd) c
        · exact n3 d c d hd rfl

/-! ### the stable sort is a permutation -/

theorem insertDesc_perm (w : DcW V) (l : List (DcW V)) : (insertDesc w l).Perm (w :: l) := by
  induction l with
  | nil => exact List.Perm.refl _
  | cons x xs ih =>
    simp only [insertDesc]
    split
    · exact List.Perm.refl _
    · exact (List.Perm.cons x ih).trans (List.Perm.swap w x xs)

theorem sortDesc_perm (l : List (DcW V)) : (sortDesc l).Perm l := by
  induction l with
  | nil => exact List.Perm.refl _
  | cons w ws ih => exact (insertDesc_perm w (sortDesc ws)).trans (List.Perm.cons w ih)

theorem rootDests_sortDesc_perm (l : List (DcW V)) : (rootDests (sortDesc l)).Perm (rootDests l) :=
  List.Perm.flatMap_right _ (sortDesc_perm l)

theorem fill_spec (A : Alg V) (ps : PState V) (ns : Dict V) (c : CArgs V) :
    (fill A ps ns c).Spec
      (fun st' => Del (popped ps.wrappers) ns st'.1 ∧
        ((∀ f ∈ allFields ps.wrappers, ∀ d ∈ f.dests, (splitDest d).1 ∈ dkeys c) → dkeys st'.2 = dkeys c))
      (fun e => e = .assertionError ∧ ps.wrappers.length ≠ c.length)
      (∃ f ∈ allFields ps.wrappers, ∃ d d' r, f.dests = d :: d' :: r) := by
  unfold fill
  refine Out.Spec.ite (fun hg => ⟨rfl, ?_⟩) fun _ =>
    (fillWrappers_spec A ps.wrappers (ns, c)).mono (fun _ => id) (fun _ => False.elim) id
  rw [Bool.and_eq_true] at hg
  exact bne_iff_ne.mp hg.2

/-- the sorted order does not matter for what is bound and for what collides -/
theorem instantiate_spec (A : Alg V) (ps : PState V) (ns : Dict V) (c : CArgs V) :
    (instantiate A ps ns c).Spec
      (fun ns' => Ext (rootDests ps.wrappers) ns ns' ∧
        ∀ w ∈ ps.wrappers, w.hasParent = false → w.suppress = false → ∀ d ∈ w.dests, d ∈ dkeys ns')
      (fun e => e = .runtimeError → ¬((∀ d ∈ rootDests ps.wrappers, d ∉ dkeys ns) ∧ (rootDests ps.wrappers).Nodup))
      False := by
  have hperm := rootDests_sortDesc_perm ps.wrappers
  unfold instantiate
  refine Out.Spec.ite (fun _ => nofun) fun _ => ?_
  have h := instWrappers_spec A ps.defaultsKeys (sortDesc ps.wrappers) (ns, c)
  revert h
  cases instWrappers A ps.defaultsKeys (sortDesc ps.wrappers) (ns, c) with
  | unmodelled y => exact id
  | raise e =>
    exact fun h hr hcol => h hr ⟨fun d hd => hcol.1 d (hperm.mem_iff.mp hd), hperm.nodup_iff.mpr hcol.2⟩
  | ok st' =>
    rintro ⟨c1, c2⟩
    refine Out.Spec.ite (fun _ => ?_) fun _ => nofun
    exact ⟨⟨fun k hk => c1.1 k fun m => hk (hperm.mem_iff.mp m), c1.2⟩,
      fun w hw => c2 w ((sortDesc_perm _).mem_iff.mpr hw)⟩

theorem postprocess_eq (A : Alg V) (ps : PState V) (raw : Dict V) :
    postprocess A ps raw =
      (removeSubgroups ps.wrappers raw).bind fun r1 =>
      (fill A ps r1.1 (initCArgs ps)).bind fun r2 =>
      (instantiate A ps r2.1 r2.2).bind fun ns3 => .ok { attrs := ns3, subgroups := r1.2 } := by
  unfold postprocess
  rcases removeSubgroups ps.wrappers raw with ⟨ns1, sub⟩ | _ | _ <;> try rfl
  dsimp only [Out.bind]
  rcases fill A ps ns1 (initCArgs ps) with ⟨ns2, c⟩ | _ | _ <;> try rfl
  dsimp only
  cases instantiate A ps ns2 c <;> rfl

/-- What `_postprocessing` does to the namespace: it removes the subgroup destinations and the destinations of the
    `init` fields, then binds `add_arguments` destinations — all those of wrappers registered without
    `default=SUPPRESS` — and touches nothing else; `subgroups` exists exactly when there is a subgroup field.  The
    namespace-collision `RuntimeError` needs an `add_arguments` destination that is an attribute of the raw namespace
    or occurs twice. -/
theorem postprocess_spec (A : Alg V) (ps : PState V) (raw : Dict V) :
    (postprocess A ps raw).Spec
      (fun n => (∃ ns, Del (subgroupDests ps.wrappers ++ popped ps.wrappers) raw ns ∧
          Ext (rootDests ps.wrappers) ns n.attrs ∧
          ∀ w ∈ ps.wrappers, w.hasParent = false → w.suppress = false → ∀ d ∈ w.dests, d ∈ dkeys n.attrs) ∧
        (n.subgroups.isSome ↔ subgroupDests ps.wrappers ≠ []))
      (fun e => e = .runtimeError → ¬((∀ d ∈ rootDests ps.wrappers, d ∉ dkeys raw) ∧ (rootDests ps.wrappers).Nodup))
      True := by
  rw [postprocess_eq]
  refine Out.Spec.bind ((removeSubgroups_spec ps.wrappers raw).mono (fun r1 a => ?_)
    (fun e he hr => by cases he.1.symm.trans hr) fun _ => trivial)
  refine Out.Spec.bind ((fill_spec A ps r1.1 (initCArgs ps)).mono (fun r2 b => ?_)
    (fun e he hr => by cases he.1.symm.trans hr) fun _ => trivial)
  refine Out.Spec.bind ((instantiate_spec A ps r2.1 r2.2).mono (fun ns3 c => ?_) (fun e he hr hcol => ?_) False.elim)
  · exact ⟨⟨r2.1, a.1.trans b.1, c⟩, a.2⟩
  · -- the first two phases only remove keys
    refine he hr ⟨fun d hd hm => hcol.1 d hd ?_, hcol.2⟩
    exact ((a.1.mem_dkeys d).mp ((b.1.mem_dkeys d).mp hm).1).1

/-! a concrete instance of the hypotheses (non-vacuity) on a small value algebra whose `==` the kernel can evaluate
    (`PVal`'s derived `BEq` is not kernel-reducible): `inner: Optional[Inner] = None`, `Inner{x = 2, deep: Deep}`,
    `Deep{y = 1}`, command line `--y 15` -/

inductive TV
  | none
  | num (n : Nat)
  /-- an instance with one attribute -/
  | inst1 (attr : Str) (v : TV)

def TV.beq : TV → TV → Bool
  | .none, .none => true
  | .num a, .num b => a == b
  | .inst1 n v, .inst1 m u => n == m && TV.beq v u
  | _, _ => false

def talg : Alg TV :=
  { none := .none, dict := fun _ => .none, construct := fun _ _ => some (.inst1 [] .none), conv := fun _ v => v,
    eq := TV.beq,
    isNone := fun v => match v with | .none => true | _ => false,
    attrs := fun v => match v with | .inst1 n u => some [(n, u)] | _ => Option.none }

def fY : FieldW TV :=
  { name := ['y'], dest := ['c', '.', 'i', '.', 'd', '.', 'y'], dests := [], isSubgroup := false, init := true,
    dflt := .num 1, conv := .id }
def cDeep : ChildW TV := .mk ['d'] [fY] []
def wInner : DcW TV :=
  { dest := ['c', '.', 'i'], dests := [['c', '.', 'i']], level := 1, hasParent := true, suppress := false,
    optNone := true, ctor := ['I'],
    fields := [{ name := ['x'], dest := ['c', '.', 'i', '.', 'x'], dests := [], isSubgroup := false, init := true,
                 dflt := .num 2, conv := .id }],
    children := [cDeep] }
/-- `constructor_args["c.i"]` after `--y 15`: x at its default, deep built with y = 15 -/
def wInnerArgs : Dict TV := [(['x'], .num 2), (['d'], .inst1 ['y'] (.num 15))]

theorem wInner_fields_default : allAtDefault talg wInnerArgs wInner.fields = some true := by decide +kernel
theorem cDeep_mem : cDeep ∈ wInner.children := List.mem_cons_self
theorem wInnerArgs_deep : dget wInnerArgs cDeep.name = some (.inst1 ['y'] (.num 15)) := by rfl
theorem cDeep_changed : cDeep.atDefault talg (.inst1 ['y'] (.num 15)) = false := by decide +kernel

example : allAtDefault talg wInnerArgs wInner.fields = some true := wInner_fields_default
example : cDeep ∈ wInner.children := cDeep_mem
example : dget wInnerArgs cDeep.name = some (.inst1 ['y'] (.num 15)) := wInnerArgs_deep
example : cDeep.atDefault talg (.inst1 ['y'] (.num 15)) = false := cDeep_changed
/-- the repaired rule builds the member … -/
example : createInstance talg wInner wInnerArgs = constructOut talg wInner wInnerArgs :=
  createInstance_child_changed talg wInner wInnerArgs wInner_fields_default cDeep cDeep_mem _ wInnerArgs_deep cDeep_changed
/-- … the old one dropped it -/
example : createInstanceOld talg wInner wInnerArgs = .ok .none :=
  createInstanceOld_ignores_children talg wInner wInnerArgs rfl wInner_fields_default
/-- and with `y` left at 1 the member stays `None` under the repaired rule too -/
example : createInstance talg wInner [(['x'], .num 2), (['d'], .inst1 ['y'] (.num 1))] = .ok .none := by rfl

end SpVerif.Post
