/-
  SpVerif.Lemmas.BoolFlag — string lemmas behind the C12 theorems about the negative-option surgery
  (`negOne` / `negLoop` / `negExplicit`) and about `str2bool` (`stripWs`, `lower`).
  Only core `List` reasoning; no Mathlib.
-/
import SpVerif.Model.BoolFlag
import SpVerif.Lemmas.Core
namespace SpVerif.BoolFlagL
open SpVerif

/-! ### `lstripDash` / `leadingDashes`

  Both recurse on a leading dash and stop at anything else, so the inductions below follow
  `lstripDash`'s own recursion: a dash in front, or a string that does not start with one. -/

@[simp] theorem lstripDash_nil : lstripDash [] = [] := rfl
@[simp] theorem lstripDash_dash (cs : Str) : lstripDash ('-' :: cs) = lstripDash cs := rfl

@[simp] theorem leadingDashes_nil : leadingDashes [] = 0 := rfl
@[simp] theorem leadingDashes_dash (cs : Str) : leadingDashes ('-' :: cs) = leadingDashes cs + 1 := rfl

theorem lstripDash_of_head (s : Str) (h : s.head? ≠ some '-') : lstripDash s = s := by
  rw [lstripDash]
  rintro cs rfl
  exact h rfl

theorem leadingDashes_of_head (s : Str) (h : s.head? ≠ some '-') : leadingDashes s = 0 := by
  rw [leadingDashes]
  rintro cs rfl
  exact h rfl

theorem head?_ne_dash {s : Str} (h : ∀ cs, s = '-' :: cs → False) : s.head? ≠ some '-' :=
  fun e => (List.head?_eq_some_iff.mp e).elim h

theorem head?_append_cons_ne {f : Str} {c : Char} (r : Str) (hf : f.head? ≠ some '-') (h : c ≠ '-') :
    (f ++ c :: r).head? ≠ some '-' := by
  cases f with
  | nil => exact fun e => h (Option.some.inj e)
  | cons d ds => exact hf

theorem dashes_append_lstripDash (s : Str) :
    List.replicate (leadingDashes s) '-' ++ lstripDash s = s := by
  fun_induction lstripDash s with
  | case1 cs ih => exact congrArg ('-' :: ·) ih
  | case2 s h => rw [leadingDashes]; rfl; exact h

theorem lstripDash_head (s : Str) : (lstripDash s).head? ≠ some '-' := by
  fun_induction lstripDash s with
  | case1 cs ih => exact ih
  | case2 s h => exact head?_ne_dash h

@[simp] theorem lstripDash_replicate (k : Nat) (s : Str) :
    lstripDash (List.replicate k '-' ++ s) = lstripDash s := by
  induction k with
  | zero => rfl
  | succ k ih => exact ih

@[simp] theorem leadingDashes_replicate (k : Nat) (s : Str) :
    leadingDashes (List.replicate k '-' ++ s) = k + leadingDashes s := by
  induction k with
  | zero => exact (Nat.zero_add _).symm
  | succ k ih =>
    rw [List.replicate_succ, List.cons_append, leadingDashes_dash, ih]
    exact Nat.add_right_comm k _ 1

theorem lstripDash_append_ne (f : Str) (c : Char) (r : Str) (h : c ≠ '-') :
    lstripDash (f ++ c :: r) = lstripDash f ++ c :: r := by
  fun_induction lstripDash f with
  | case1 cs ih => exact ih
  | case2 f hf => exact lstripDash_of_head _ (head?_append_cons_ne r (head?_ne_dash hf) h)

theorem leadingDashes_append_ne (f : Str) (c : Char) (r : Str) (h : c ≠ '-') :
    leadingDashes (f ++ c :: r) = leadingDashes f := by
  fun_induction leadingDashes f with
  | case1 cs ih => exact congrArg (· + 1) ih
  | case2 f hf => exact leadingDashes_of_head _ (head?_append_cons_ne r (head?_ne_dash hf) h)

theorem eq_of_dashes_of_body {s t : Str} (hd : leadingDashes s = leadingDashes t)
    (hb : lstripDash s = lstripDash t) : s = t := by
  rw [← dashes_append_lstripDash s, ← dashes_append_lstripDash t, hd, hb]

/-- dashes are only stripped from the first component of a dotted path -/
theorem lstripDash_joinWith (f : Str) (mid : List Str) :
    joinWith '.' (lstripDash f :: mid) = lstripDash (joinWith '.' (f :: mid)) := by
  cases mid with
  | nil => rfl
  | cons q r => exact (lstripDash_append_ne f '.' _ (by decide)).symm

/-- `rpartition('.')`: a string with a dot is `P + "." + leaf` with a dot-free `leaf` -/
theorem exists_rpartition {s : Str} (h : '.' ∈ s) :
    ∃ P leaf, s = P ++ '.' :: leaf ∧ '.' ∉ leaf := by
  induction s with
  | nil => cases h
  | cons c cs ih =>
    by_cases hcs : '.' ∈ cs
    · obtain ⟨P, leaf, he, hl⟩ := ih hcs
      exact ⟨c :: P, leaf, congrArg (c :: ·) he, hl⟩
    · obtain rfl : '.' = c := (List.mem_cons.mp h).resolve_right hcs
      exact ⟨[], cs, rfl, hcs⟩

theorem append_sep_inj {sep : Char} {a a' r r' : Str} (hc : r.count sep = r'.count sep)
    (h : a ++ sep :: r = a' ++ sep :: r') : a = a' ∧ r = r' := by
  -- were one of `a`, `a'` longer, one more separator would follow the other
  have key : ∀ x r r' : Str, r.count sep ≤ r'.count sep → r ≠ x ++ sep :: r' := by
    rintro x _ r' hle rfl
    rw [List.count_append, List.count_cons_self] at hle
    omega
  induction a generalizing a' with
  | nil =>
    cases a' with
    | nil => exact ⟨rfl, List.tail_eq_of_cons_eq h⟩
    | cons c a' => exact absurd (List.tail_eq_of_cons_eq h) (key a' r r' (Nat.le_of_eq hc))
  | cons c a ih =>
    cases a' with
    | nil => exact absurd (List.tail_eq_of_cons_eq h).symm (key a r' r (Nat.le_of_eq hc.symm))
    | cons c' a' =>
      obtain ⟨rfl, hr⟩ := ih (List.tail_eq_of_cons_eq h)
      exact ⟨congrArg (· :: a) (List.head_eq_of_cons_eq h), hr⟩

theorem lstripWs_space {ws : Str} (s : Str) (h : ∀ c ∈ ws, isSpace c = true) :
    lstripWs (ws ++ s) = lstripWs s := by
  induction ws with
  | nil => rfl
  | cons y ys ih =>
    rw [List.cons_append, lstripWs, if_pos (h y List.mem_cons_self)]
    exact ih fun c hc => h c (List.mem_cons_of_mem y hc)

theorem lstripWs_cons {c : Char} (s : Str) (h : isSpace c = false) : lstripWs (c :: s) = c :: s := by
  rw [lstripWs, if_neg (Bool.eq_false_iff.mp h)]

/-! ### `stripWs` and `lower` commute -/

theorem lowerChar_toNat (c : Char) :
    (lowerChar c).toNat = if 65 ≤ c.toNat ∧ c.toNat ≤ 90 then c.toNat + 32 else c.toNat := by
  unfold lowerChar
  have h1 : 'A'.toNat = 65 := rfl
  have h2 : 'Z'.toNat = 90 := rfl
  rw [h1, h2]
  split
  · next h =>
    have hv : (c.toNat + 32).isValidChar := Or.inl (by omega)
    rw [Char.ofNat, dif_pos hv]
    rfl
  · rfl

theorem lowerChar_of_not_upper (c : Char) (h : ¬ (65 ≤ c.toNat ∧ c.toNat ≤ 90)) : lowerChar c = c :=
  if_neg h

/-- every character `str.strip()` removes (in the modelled ASCII fragment) is below `'A'` -/
theorem not_isSpace_of_ge (c : Char) (h : 33 ≤ c.toNat) : isSpace c = false := by
  apply Bool.eq_false_iff.mpr
  intro hs
  simp only [isSpace, Bool.or_eq_true, decide_eq_true_eq, or_assoc] at hs
  rcases hs with rfl | rfl | rfl | rfl | rfl | rfl | rfl | rfl | rfl | rfl <;> exact absurd h (by decide)

theorem isSpace_lowerChar (c : Char) : isSpace (lowerChar c) = isSpace c := by
  by_cases hu : 65 ≤ c.toNat ∧ c.toNat ≤ 90
  · have hl := lowerChar_toNat c
    rw [if_pos hu] at hl
    rw [not_isSpace_of_ge c (by omega), not_isSpace_of_ge _ (by omega)]
  · rw [lowerChar_of_not_upper c hu]

theorem lowerChar_idem (c : Char) : lowerChar (lowerChar c) = lowerChar c := by
  apply lowerChar_of_not_upper
  rw [lowerChar_toNat]
  split <;> omega

theorem lower_idem (s : Str) : lower (lower s) = lower s := by
  simp only [lower, List.map_map, Function.comp_def, lowerChar_idem]

theorem lstripWs_lower (s : Str) : lstripWs (lower s) = lower (lstripWs s) := by
  induction s with
  | nil => rfl
  | cons c cs ih =>
    simp only [lower, List.map_cons, lstripWs, isSpace_lowerChar]
    split
    · exact ih
    · rfl

/-- `s.lower().strip() == s.strip().lower()` -/
theorem stripWs_lower (s : Str) : stripWs (lower s) = lower (stripWs s) := by
  have hrev : ∀ t : Str, (lower t).reverse = lower t.reverse := fun t => List.map_reverse.symm
  unfold stripWs
  rw [lstripWs_lower, hrev, lstripWs_lower, hrev]

end SpVerif.BoolFlagL
