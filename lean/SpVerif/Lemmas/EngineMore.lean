/-
  The lexer and the main loop on whole command lines (used by C02, C04, C10):

  * value tokens are characterised by what argparse itself does with them (`ArgTok`: the token is
    lexed as an argument), so that plain negative numbers are covered (`classify_neg`); tokens
    without a leading dash (`NoDash`) are the simplest instance;
  * a segment may be written in the `--opt=value` spelling (`ESeg.eq`): `classify_eq`,
    `lexAll_render'`, `consume_render'` — both spellings end in the same `applySegs`;
  * argument tokens in front of an arbitrary rest are lexed as arguments (`lexAll_args`); in front
    of a literal `--` the lexer works token by token: `lexAll_cons_inv`, `lexAll_append_inv`,
    `lexAll_mem`, `lexAll_O_inv`.
-/
import SpVerif.Lemmas.Core
import SpVerif.Lemmas.Engine
namespace SpVerif

/-! ### value tokens: what argparse lexes as an argument -/

/-- the property's own exclusion, stated with the lexer: `_parse_optional` classifies the token as
    an argument (`'A'`), and it is not the literal `--` -/
def ArgTok (tbl : List Act) (t : Str) : Prop := classify tbl t = .ok .A ∧ t ≠ ['-', '-']

theorem argTok_of_nodash (tbl : List Act) (t : Str) (h : NoDash t) : ArgTok tbl t :=
  ⟨classify_nodash tbl t h, nodash_ne_dd t h⟩

theorem lookup_none_of_not_mem {β : Type} (l : List (Str × β)) (k : Str)
    (h : ∀ p ∈ l, p.1 ≠ k) : l.lookup k = none := by
  cases hl : l.lookup k with
  | none => rfl
  | some v => exact absurd rfl (h _ (lookup_mem hl))

/-- no option string has a digit or a dot right after its first dash (true of every table
    simple-parsing generates from Python identifiers) -/
def OptsNonNumeric (tbl : List Act) : Prop :=
  ∀ p ∈ optTable tbl, ∀ c r, p.1 = '-' :: c :: r → isDigit c = false ∧ c ≠ '.'

theorem splitOnChar_cons_cases (sep c : Char) (cs p : Str) (ps : List Str)
    (h : splitOnChar sep (c :: cs) = p :: ps) :
    (c = sep ∧ p = []) ∨ (c ≠ sep ∧ ∃ p', p = c :: p') := by
  obtain ⟨q, qs, _, e⟩ := splitOnChar_cons sep c cs
  rw [e] at h
  split at h
  next hc => exact .inl ⟨hc, (List.cons.inj h).1.symm⟩
  next hc => exact .inr ⟨hc, q, (List.cons.inj h).1.symm⟩

/-- a string that matches the negative-number pattern has a digit or a dot after the dash -/
theorem looksNeg_second (t : Str) (h : looksNegNumber t = true) :
    ∃ d r, t = '-' :: d :: r ∧ (isDigit d = true ∨ d = '.') := by
  cases t with
  | nil => simp [looksNegNumber] at h
  | cons c cs =>
    by_cases hc : c = '-'
    · subst hc
      cases cs with
      | nil => exact absurd h (by decide)
      | cons d r =>
        refine ⟨d, r, rfl, ?_⟩
        simp only [looksNegNumber, List.isEmpty_cons, Bool.not_false, Bool.true_and, Bool.or_eq_true] at h
        rcases h with h | h
        · left
          simp only [allDigits, List.all_cons, Bool.and_eq_true] at h
          exact h.1
        · split at h
          · rename_i a b hab
            rcases splitOnChar_cons_cases '.' d r a [b] hab with ⟨hd, _⟩ | ⟨_, p', hp'⟩
            · exact Or.inr hd
            · left
              subst hp'
              simp only [allDigits, List.all_cons, Bool.and_eq_true] at h
              exact h.1.1.1
          · cases h
    · unfold looksNegNumber at h
      split at h
      · rename_i r heq
        simp only [List.cons.injEq] at heq
        exact absurd heq.1 hc
      · cases h

/-- a token starting with `--` is never read as a negative number -/
theorem looksNegNumber_dd (r : Str) : looksNegNumber ('-' :: '-' :: r) = false := by
  cases h : looksNegNumber ('-' :: '-' :: r) with
  | false => rfl
  | true =>
    obtain ⟨d, r', he, hd⟩ := looksNeg_second _ h
    cases he
    exact absurd hd (by decide)

theorem optsNonNumeric_noNeg (tbl : List Act) (h : OptsNonNumeric tbl) : hasNegNumberOpts tbl = false := by
  unfold hasNegNumberOpts
  rw [List.any_eq_false]
  intro p hp hneg
  obtain ⟨d, r, hpr, hd⟩ := looksNeg_second p.1 (by simpa using hneg)
  obtain ⟨h1, h2⟩ := h p hp d r hpr
  rcases hd with hd | hd
  · rw [h1] at hd; cases hd
  · exact h2 hd

theorem append_of_startsWith (p : Str) : ∀ s : Str, startsWith s p = true → ∃ r, s = p ++ r := by
  induction p with
  | nil => exact fun s _ => ⟨s, rfl⟩
  | cons d ds ih =>
    intro s h
    cases s with
    | nil => cases h
    | cons c cs =>
      rw [startsWith, Bool.and_eq_true, beq_iff_eq] at h
      obtain ⟨r, hr⟩ := ih cs h.2
      exact ⟨r, by rw [h.1, hr]; rfl⟩

/-- **plain negative numbers are arguments** (`_negative_number_matcher`, with no option string
    that looks like a negative number): a token matching `-\d+` / `-\d*\.\d+` that contains no `=`
    is lexed as an argument, whatever the rest of the table is -/
theorem classify_neg (tbl : List Act) (t : Str) (hneg : looksNegNumber t = true)
    (heq : splitEq t = none) (htbl : OptsNonNumeric tbl) : classify tbl t = .ok .A := by
  obtain ⟨d, r, rfl, hd⟩ := looksNeg_second t hneg
  have hnot : ∀ p ∈ optTable tbl, ∀ r', p.1 ≠ '-' :: d :: r' := by
    intro p hp r' hpr
    obtain ⟨h1, h2⟩ := htbl p hp d r' hpr
    rcases hd with hd | hd
    · rw [h1] at hd; cases hd
    · exact h2 hd
  have hlook : (optTable tbl).lookup ('-' :: d :: r) = none :=
    lookup_none_of_not_mem _ _ (fun p hp => hnot p hp r)
  have hdd : d ≠ '-' := by
    rcases hd with hd | hd
    · intro hh; subst hh; simp [isDigit] at hd
    · intro hh; subst hh; cases hd
  have htup : optionTuples (optTable tbl) ('-' :: d :: r) = [] := by
    unfold optionTuples
    split
    · rename_i x heq'
      simp only [List.cons.injEq, true_and] at heq'
      exact absurd heq'.1 hdd
    · rw [List.filterMap_eq_nil_iff]
      intro p hp
      rename_i c1 c2 hh
      have hp1 : ¬ p.1 = List.take 2 ('-' :: d :: r) := by
        simp only [List.take_succ_cons, List.take_zero]
        exact hnot p hp []
      have hp2 : ¬ startsWith p.1 ('-' :: d :: r) = true := by
        intro hs
        obtain ⟨r', hr'⟩ := append_of_startsWith _ _ hs
        exact hnot p hp (r ++ r') hr'
      cases hh
      simp only [hp1, ↓reduceIte, hp2, Bool.false_eq_true]
    · rfl
  unfold classify
  simp [hlook, heq, htup, hneg, optsNonNumeric_noNeg tbl htbl]

theorem looksNeg_ne_dd (t : Str) (h : looksNegNumber t = true) : t ≠ ['-', '-'] := by
  intro hh; subst hh; revert h; decide

theorem argTok_of_neg (tbl : List Act) (t : Str) (hneg : looksNegNumber t = true)
    (heq : splitEq t = none) (htbl : OptsNonNumeric tbl) : ArgTok tbl t :=
  ⟨classify_neg tbl t hneg heq htbl, looksNeg_ne_dd t hneg⟩

theorem splitEq_none_of_not_mem (s : Str) (h : '=' ∉ s) : splitEq s = none := by
  induction s with
  | nil => rfl
  | cons c cs ih =>
    simp only [List.mem_cons, not_or] at h
    have hc : ¬ c = '=' := fun hh => h.1 hh.symm
    simp only [splitEq, hc, ↓reduceIte, ih h.2]

theorem splitEq_append (o t : Str) (h : '=' ∉ o) : splitEq (o ++ '=' :: t) = some (o, t) := by
  induction o with
  | nil => simp [splitEq]
  | cons c cs ih =>
    simp only [List.mem_cons, not_or] at h
    have hc : ¬ c = '=' := fun hh => h.1 hh.symm
    simp only [List.cons_append, splitEq, hc, ↓reduceIte, ih h.2]

/-! ### segments in either spelling -/

/-- a segment together with the spelling used for it -/
structure ESeg where
  seg : Seg
  eq : Bool            -- `--opt=value` requested (only possible with exactly one value token)
  deriving Repr

/-- the value of an `=`-spelled segment; `none` = the segment is written `--opt tok₁ … tokₖ` -/
def ESeg.eqTok (s : ESeg) : Option Str :=
  match s.eq, s.seg.toks with
  | true, [t] => some t
  | _, _ => none

def renderESeg (s : ESeg) : List Str :=
  match s.eqTok with
  | some t => [s.seg.opt ++ '=' :: t]
  | none => renderSeg s.seg

def render' (segs : List ESeg) : List Str := segs.flatMap renderESeg

def esegToks (s : ESeg) : List Tok :=
  match s.eqTok with
  | some t => [Tok.O (some s.seg.idx) s.seg.opt (some t)]
  | none => segToks s.seg

def renderToks' (segs : List ESeg) : List Tok := segs.flatMap esegToks

theorem render'_cons (s : ESeg) (ss : List ESeg) : render' (s :: ss) = renderESeg s ++ render' ss := by
  simp [render']

theorem renderToks'_cons (s : ESeg) (ss : List ESeg) :
    renderToks' (s :: ss) = esegToks s ++ renderToks' ss := by
  simp [renderToks']

theorem eqTok_some (s : ESeg) (t : Str) (h : s.eqTok = some t) : s.seg.toks = [t] := by
  unfold ESeg.eqTok at h
  split at h
  · rename_i t' _ ht; simp only [Option.some.injEq] at h; rw [ht, h]
  · cases h

/-- no option string of the table contains `=` (true of every table simple-parsing generates) -/
def OptsNoEq (tbl : List Act) : Prop := ∀ p ∈ optTable tbl, '=' ∉ p.1

structure LexOk' (tbl : List Act) (s : ESeg) : Prop where
  lookup : (optTable tbl).lookup s.seg.opt = some s.seg.idx
  optdash : ∃ r, s.seg.opt = '-' :: r
  notdd : s.seg.opt ≠ ['-', '-']
  /-- spaced spelling: every value token is one argparse lexes as an argument -/
  args : s.eqTok = none → ∀ t ∈ s.seg.toks, ArgTok tbl t
  /-- `=` spelling: ANY value goes (even one starting with `-`); the option string has no `=` -/
  eqok : ∀ t, s.eqTok = some t →
    '=' ∉ s.seg.opt ∧ (optTable tbl).lookup (s.seg.opt ++ '=' :: t) = none

/-- the `=`-spelling side condition follows from the table-level `OptsNoEq` -/
theorem eqok_of_optsNoEq (tbl : List Act) (s : ESeg) (h : OptsNoEq tbl)
    (hl : (optTable tbl).lookup s.seg.opt = some s.seg.idx) (t : Str) :
    '=' ∉ s.seg.opt ∧ (optTable tbl).lookup (s.seg.opt ++ '=' :: t) = none := by
  refine ⟨h _ (lookup_mem hl), lookup_none_of_not_mem _ _ ?_⟩
  intro p hp hpe
  exact h p hp (by rw [hpe]; simp)

/-- `LexOk` (no-dash tokens, spaced spelling) is an instance -/
theorem lexOk'_of_lexOk (tbl : List Act) (s : Seg) (h : LexOk tbl s) : LexOk' tbl ⟨s, false⟩ :=
  ⟨h.lookup, h.optdash, h.notdd, fun _ t ht => argTok_of_nodash tbl t (h.nodash t ht),
   fun t ht => by simp [ESeg.eqTok] at ht⟩

/-- **`--opt=value`** with `opt` an exact option string (and the whole token not itself one) is
    lexed as that option with the explicit argument `value` -/
theorem classify_eq (tbl : List Act) (o x : Str) (i : Nat) (hr : ∃ r, o = '-' :: r)
    (hne : '=' ∉ o) (hl : (optTable tbl).lookup o = some i)
    (hnl : (optTable tbl).lookup (o ++ '=' :: x) = none) :
    classify tbl (o ++ '=' :: x) = .ok (.O (some i) o (some x)) := by
  obtain ⟨r, hr⟩ := hr
  unfold classify
  have hform : o ++ '=' :: x = '-' :: (r ++ '=' :: x) := by rw [hr]; rfl
  rw [hform]
  simp only [ne_eq, not_true_eq_false, ↓reduceIte]
  rw [← hform, hnl]
  have hlen : ¬ (o ++ '=' :: x).length = 1 := by
    rw [hr]; simp
  simp only [hlen, ↓reduceIte, splitEq_append o x hne, hl]

theorem eq_arg_ne_dd (o t : Str) : o ++ '=' :: t ≠ ['-', '-'] := by
  intro h
  have : '=' ∈ o ++ '=' :: t := by simp
  rw [h] at this
  simp at this

/-- argument tokens in front of the rest of the command line are lexed as arguments, whatever the
    rest is lexed as -/
theorem lexAll_args (tbl : List Act) (toks rest : List Str) (hn : ∀ t ∈ toks, ArgTok tbl t) :
    lexAll tbl (toks ++ rest) = (lexAll tbl rest).map (toks.map (fun _ => Tok.A) ++ ·) := by
  induction toks with
  | nil => rw [List.nil_append]; cases lexAll tbl rest <;> rfl
  | cons t ts ih =>
    obtain ⟨h1, h2⟩ := hn t List.mem_cons_self
    rw [List.cons_append, lexAll, if_neg h2, h1, ih fun x hx => hn x (List.mem_cons_of_mem _ hx)]
    cases lexAll tbl rest <;> rfl

/-- in front of a literal `--` the lexer goes token by token -/
theorem lexAll_cons_inv {tbl : List Act} {a : Str} {rest : List Str} {toks : List Tok}
    (ha : a ≠ ['-', '-']) (h : lexAll tbl (a :: rest) = .ok toks) :
    ∃ t ts, toks = t :: ts ∧ classify tbl a = .ok t ∧ lexAll tbl rest = .ok ts := by
  simp only [lexAll, ha, ↓reduceIte] at h
  cases hc : classify tbl a with
  | error e => rw [hc] at h; cases h
  | ok t =>
    cases hr : lexAll tbl rest with
    | error e => simp only [hc, hr] at h; cases h
    | ok ts =>
      simp only [hc, hr, Except.ok.injEq] at h
      exact ⟨t, ts, h.symm, rfl, rfl⟩

theorem lexAll_append_inv {tbl : List Act} {pre rest : List Str} {toks : List Tok}
    (hdd : ∀ x ∈ pre, x ≠ ['-', '-']) (h : lexAll tbl (pre ++ rest) = .ok toks) :
    ∃ t1 t2, toks = t1 ++ t2 ∧ t1.length = pre.length ∧ lexAll tbl rest = .ok t2 := by
  induction pre generalizing toks with
  | nil => exact ⟨[], toks, rfl, rfl, h⟩
  | cons x xs ih =>
    obtain ⟨t, ts, rfl, _, hr⟩ := lexAll_cons_inv (hdd x (by simp)) h
    obtain ⟨t1, t2, rfl, hl, h2⟩ := ih (fun y hy => hdd y (by simp [hy])) hr
    exact ⟨t :: t1, t2, rfl, by simp [hl], h2⟩

/-- a token in front of any `--` is paired with the token the lexer makes of it -/
theorem lexAll_mem {tbl : List Act} {pre post : List Str} {a : Str} {t : Tok}
    (hdd : ∀ x ∈ pre, x ≠ ['-', '-']) (ha : a ≠ ['-', '-']) (hc : classify tbl a = .ok t)
    {toks : List Tok} (hlex : lexAll tbl (pre ++ a :: post) = .ok toks) :
    (a, t) ∈ (pre ++ a :: post).zip toks := by
  obtain ⟨t1, t2, rfl, hl1, h2⟩ := lexAll_append_inv hdd hlex
  obtain ⟨t', ts, rfl, hc', _⟩ := lexAll_cons_inv ha h2
  rw [hc] at hc'
  cases hc'
  rw [List.zip_append hl1.symm]
  simp

/-- conversely, every option token is what the lexer made of some token of the command line -/
theorem lexAll_O_inv {tbl : List Act} {argv : List Str} {toks : List Tok}
    (h : lexAll tbl argv = .ok toks) {i : Option Nat} {o : Str} {ex : Option Str}
    (hm : Tok.O i o ex ∈ toks) : ∃ a ∈ argv, classify tbl a = .ok (.O i o ex) := by
  induction argv generalizing toks with
  | nil => cases h; cases hm
  | cons a rest ih =>
    by_cases ha : a = ['-', '-']
    · -- behind `--` everything is an argument
      simp only [lexAll, ha, ↓reduceIte, Except.ok.injEq] at h
      subst h
      simp at hm
    · obtain ⟨t, ts, rfl, hc, hr⟩ := lexAll_cons_inv ha h
      rcases List.mem_cons.mp hm with rfl | hm
      · exact ⟨a, List.mem_cons_self, hc⟩
      · obtain ⟨b, hb, hcb⟩ := ih hr hm
        exact ⟨b, List.mem_cons_of_mem _ hb, hcb⟩

/-- **Lexing a rendered command line (either spelling)** -/
theorem lexAll_render' (tbl : List Act) (segs : List ESeg) (h : ∀ s ∈ segs, LexOk' tbl s) :
    lexAll tbl (render' segs) = .ok (renderToks' segs) := by
  induction segs with
  | nil => rfl
  | cons s ss ih =>
    have hs := h s (by simp)
    have ih' := ih (fun x hx => h x (by simp [hx]))
    simp only [render', renderToks', List.flatMap_cons] at ih' ⊢
    cases he : s.eqTok with
    | some t =>
      simp only [renderESeg, esegToks, he, List.cons_append, List.nil_append, lexAll,
        eq_arg_ne_dd, ↓reduceIte,
        classify_eq tbl _ t _ hs.optdash (hs.eqok t he).1 hs.lookup (hs.eqok t he).2, ih']
    | none =>
      obtain ⟨r, hr⟩ := hs.optdash
      simp only [renderESeg, esegToks, he, renderSeg, segToks, List.cons_append, lexAll, hs.notdd,
        ↓reduceIte, classify_exact tbl _ _ r hr hs.lookup]
      rw [lexAll_args tbl s.seg.toks _ (hs.args he), ih']
      rfl

theorem render'_length (segs : List ESeg) : (render' segs).length = (renderToks' segs).length := by
  induction segs with
  | nil => rfl
  | cons s ss ih =>
    simp only [render', renderToks', List.flatMap_cons, List.length_append] at ih ⊢
    rw [ih]
    congr 1
    unfold renderESeg esegToks
    cases s.eqTok <;> simp [renderSeg, segToks]

theorem renderToks'_head (segs : List ESeg) : (renderToks' segs).head? ≠ some .A := by
  cases segs with
  | nil => simp [renderToks']
  | cons s ss =>
    simp only [renderToks', List.flatMap_cons, esegToks]
    cases s.eqTok <;> simp [segToks]

theorem segs_le_render' (segs : List ESeg) : segs.length ≤ (render' segs).length := by
  induction segs with
  | nil => simp
  | cons s ss ih =>
    simp only [render', List.flatMap_cons, List.length_append, List.length_cons] at ih ⊢
    have : 1 ≤ (renderESeg s).length := by
      unfold renderESeg
      cases s.eqTok <;> simp [renderSeg]
    exact Nat.add_comm _ _ ▸ Nat.add_le_add this ih

/-! ### consuming -/

/-- one spaced segment in front of any already-lexed rest -/
theorem consume_step_plain (fenv : FEnv) (tbl : List Act) (s : Seg) (a : Act) (n : Nat) (st : St)
    (r1 : List Str) (r2 : List Tok) (hlen : r1.length = r2.length) (hhead : r2.head? ≠ some .A)
    (ha : tbl[s.idx]? = some a) (hk : a.kind ≠ .help) (har : arityOk a.nargs s.toks.length) :
    consume fenv tbl (n + 1) st ((renderSeg s ++ r1).zip (segToks s ++ r2)) =
      (match takeAction fenv tbl st s.idx s.opt s.toks with
       | .error e => .error e
       | .ok st' => consume fenv tbl n st' (r1.zip r2)) := by
  have hmap : (List.map (fun t => (t, Tok.A)) s.toks ++ r1.zip r2).map (·.2) =
      s.toks.map (fun _ => Tok.A) ++ r2 := by
    rw [List.map_append, List.map_map, List.map_snd_zip (Nat.le_of_eq hlen.symm)]
    rfl
  have htake : (List.take s.toks.length
      (List.map (fun t => (t, Tok.A)) s.toks ++ r1.zip r2)).map (·.1) = s.toks := by
    rw [List.take_append_of_le_length (by simp)]
    simp [List.take_of_length_le, List.map_map, Function.comp_def]
  have hdrop : List.drop s.toks.length
      (List.map (fun t => (t, Tok.A)) s.toks ++ r1.zip r2) = r1.zip r2 := by
    rw [List.drop_append_of_le_length (by simp)]
    simp
  rw [zip_seg, consume_option_none fenv n st _ _ _ ha hk, hmap,
    matchCount_exact a.nargs s.toks r2 hhead har]
  dsimp only
  rw [htake, hdrop]
  rfl

/-- **one `--opt=value` token**: the explicit argument is the single value of the action -/
theorem consume_step_eq (fenv : FEnv) (tbl : List Act) (i : Nat) (o arg t : Str) (a : Act) (n : Nat)
    (st : St) (rest : List (Str × Tok))
    (ha : tbl[i]? = some a) (hk : a.kind ≠ .help) (har : arityOk a.nargs 1) :
    consume fenv tbl (n + 1) st ((arg, Tok.O (some i) o (some t)) :: rest) =
      (match takeAction fenv tbl st i o [t] with
       | .error e => .error e
       | .ok st' => consume fenv tbl n st' rest) := by
  simp only [consume, ha, hk, ↓reduceIte]
  cases hn : a.nargs with
  | num m =>
    rw [hn] at har
    simp only [arityOk] at har
    subst har
    simp only [↓reduceIte]
    cases takeAction fenv tbl st i o [t] <;> rfl
  | one => rfl
  | opt => rfl
  | star => rfl
  | plus => rfl

/-- **The main loop on a rendered command line, either spelling**: exactly one `take_action` per
    segment with exactly that segment's tokens — the same `applySegs` for `--opt v` and `--opt=v`. -/
theorem consume_render' (fenv : FEnv) (tbl : List Act) (segs : List ESeg) (fuel : Nat) (st : St)
    (hfuel : segs.length < fuel + 1) (hc : ∀ s ∈ segs, ConsumeOk tbl s.seg) :
    consume fenv tbl fuel st ((render' segs).zip (renderToks' segs)) =
      applySegs fenv tbl st (segs.map (·.seg)) := by
  induction segs generalizing fuel st with
  | nil => cases fuel <;> rfl
  | cons s ss ih =>
    obtain ⟨a, ha, hk, har⟩ := (hc s (by simp)).act
    cases fuel with
    | zero => simp at hfuel
    | succ n =>
      have hrec : ∀ st', consume fenv tbl n st' ((render' ss).zip (renderToks' ss)) =
          applySegs fenv tbl st' (ss.map (·.seg)) :=
        fun st' => ih n st' (Nat.lt_of_succ_lt_succ hfuel)
          (fun x hx => hc x (List.mem_cons_of_mem _ hx))
      rw [render'_cons, renderToks'_cons]
      simp only [List.map_cons, applySegs]
      cases he : s.eqTok with
      | some t =>
        have htoks := eqTok_some s t he
        simp only [renderESeg, esegToks, he, List.cons_append, List.nil_append, List.zip_cons_cons]
        rw [consume_step_eq fenv tbl s.seg.idx s.seg.opt _ t a n st _ ha hk (by rw [htoks] at har; exact har),
          htoks]
        cases takeAction fenv tbl st s.seg.idx s.seg.opt [t] with
        | error e => rfl
        | ok st' => exact hrec st'
      | none =>
        simp only [renderESeg, esegToks, he]
        rw [consume_step_plain fenv tbl s.seg a n st _ _ (render'_length ss) (renderToks'_head ss) ha hk har]
        cases takeAction fenv tbl st s.seg.idx s.seg.opt s.seg.toks with
        | error e => rfl
        | ok st' => exact hrec st'

end SpVerif
