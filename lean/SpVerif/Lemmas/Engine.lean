/-
  Lemmas about `SpVerif.Model.Engine`, one model function at a time: the lexer on an exact option
  string and on a dash-free token, `_match_argument` (`matchCount_iff`), `_get_values` in terms of the
  per-token converter, the closure counters, the namespace; and the vocabulary of *rendered* command
  lines (segments `--opt tok₁ … tokₖ`: `Seg`, `render`, `applySegs`, `LexOk`, `ConsumeOk`) whose
  lemmas about whole command lines are in `Lemmas/EngineMore`.
-/
import SpVerif.Model.Engine
namespace SpVerif

/-- one option occurrence with its value tokens -/
structure Seg where
  idx : Nat            -- index of the action in the table
  opt : Str            -- the option string used
  toks : List Str      -- the value tokens
  deriving Repr

def renderSeg (s : Seg) : List Str := s.opt :: s.toks
def render (segs : List Seg) : List Str := segs.flatMap renderSeg
def segToks (s : Seg) : List Tok := Tok.O (some s.idx) s.opt none :: s.toks.map (fun _ => Tok.A)

/-- a value token that argparse cannot mistake for an option: it does not start with `-` -/
def NoDash (t : Str) : Prop := t.head? ≠ some '-'

structure LexOk (tbl : List Act) (s : Seg) : Prop where
  lookup : (optTable tbl).lookup s.opt = some s.idx
  optdash : ∃ r, s.opt = '-' :: r
  notdd : s.opt ≠ ['-', '-']
  nodash : ∀ t ∈ s.toks, NoDash t

theorem classify_nodash (tbl : List Act) (t : Str) (h : NoDash t) : classify tbl t = .ok .A := by
  unfold classify
  cases t with
  | nil => rfl
  | cons c cs =>
    simp only [NoDash, List.head?_cons, ne_eq, Option.some.injEq] at h
    simp [h]

/-- an exact option string (as it stands in `_option_string_actions`) is lexed as that option -/
theorem classify_exact (tbl : List Act) (o : Str) (i : Nat) (r : Str) (hr : o = '-' :: r)
    (hl : (optTable tbl).lookup o = some i) : classify tbl o = .ok (.O (some i) o none) := by
  unfold classify
  rw [hr]
  simp only [ne_eq, not_true_eq_false, ↓reduceIte]
  rw [← hr, hl]

theorem nodash_ne_dd (t : Str) (h : NoDash t) : t ≠ ['-', '-'] := by
  intro hh; subst hh; simp [NoDash] at h

/-! ### consuming -/

theorem countA_map_A (toks : List Str) (rest : List Tok) (hrest : rest.head? ≠ some .A) :
    countA (toks.map (fun _ => Tok.A) ++ rest) = toks.length := by
  induction toks with
  | nil =>
    cases rest with
    | nil => rfl
    | cons t ts =>
      cases t with
      | A => simp at hrest
      | dd => rfl
      | O a o e => rfl
  | cons t ts ih => simp [countA, ih]

/-- the arity of a segment fits the action's `nargs` -/
def arityOk : NArgs → Nat → Prop
  | .one, k => k = 1
  | .opt, k => k ≤ 1
  | .star, _ => True
  | .plus, k => k ≥ 1
  | .num m, k => k = m

/-- **`_match_argument` is greedy**: it grants the largest number of the following argument tokens
    that fits `nargs` (the `nargs` patterns `A`, `A?`, `A*`, `A+`, `A{N}` are matched greedily) -/
theorem matchCount_iff {n : NArgs} {f : List Tok} {k : Nat} :
    matchCount n f = some k ↔
      arityOk n k ∧ k ≤ countA f ∧ ∀ k', arityOk n k' → k' ≤ countA f → k' ≤ k := by
  unfold matchCount
  generalize countA f = c
  cases n with
  | one =>
    simp only [arityOk]
    constructor
    · intro h
      split at h
      · cases h; exact ⟨rfl, ‹_›, fun _ h1 _ => Nat.le_of_eq h1⟩
      · cases h
    · rintro ⟨rfl, h1, _⟩
      exact if_pos h1
  | opt =>
    simp only [arityOk, Option.some.injEq]
    constructor
    · rintro rfl
      exact ⟨Nat.min_le_right _ _, Nat.min_le_left _ _, fun _ h1 h2 => Nat.le_min.mpr ⟨h2, h1⟩⟩
    · rintro ⟨h1, h2, h3⟩
      exact Nat.le_antisymm (h3 _ (Nat.min_le_right _ _) (Nat.min_le_left _ _))
        (Nat.le_min.mpr ⟨h2, h1⟩)
  | star =>
    simp only [arityOk, Option.some.injEq, true_and, forall_const]
    exact ⟨fun h => h ▸ ⟨Nat.le_refl _, fun _ h => h⟩,
      fun ⟨h1, h2⟩ => Nat.le_antisymm (h2 _ (Nat.le_refl _)) h1⟩
  | plus =>
    simp only [arityOk]
    constructor
    · intro h
      split at h
      · cases h; exact ⟨‹_›, Nat.le_refl _, fun _ _ h2 => h2⟩
      · cases h
    · rintro ⟨h1, h2, h3⟩
      have hc : c ≥ 1 := Nat.le_trans h1 h2
      rw [if_pos hc, Nat.le_antisymm (h3 c hc (Nat.le_refl _)) h2]
  | num m =>
    simp only [arityOk]
    constructor
    · intro h
      split at h
      · cases h; exact ⟨rfl, ‹_›, fun _ h1 _ => Nat.le_of_eq h1⟩
      · cases h
    · rintro ⟨rfl, h1, _⟩
      exact if_pos h1

theorem matchCount_exact (n : NArgs) (toks : List Str) (rest : List Tok)
    (hrest : rest.head? ≠ some .A) (ha : arityOk n toks.length) :
    matchCount n (toks.map (fun _ => Tok.A) ++ rest) = some toks.length := by
  rw [matchCount_iff, countA_map_A toks rest hrest]
  exact ⟨ha, Nat.le_refl _, fun _ _ h => h⟩

structure ConsumeOk (tbl : List Act) (s : Seg) : Prop where
  act : ∃ a, tbl[s.idx]? = some a ∧ a.kind ≠ .help ∧ arityOk a.nargs s.toks.length

/-- what the loop does for a list of segments: one `take_action` per segment, left to right -/
def applySegs (fenv : FEnv) (tbl : List Act) : St → List Seg → Except EOut St
  | st, [] => .ok st
  | st, s :: ss => match takeAction fenv tbl st s.idx s.opt s.toks with
    | .error e => .error e
    | .ok st' => applySegs fenv tbl st' ss

theorem zip_seg (s : Seg) (r1 : List Str) (r2 : List Tok) :
    (renderSeg s ++ r1).zip (segToks s ++ r2) =
      (s.opt, Tok.O (some s.idx) s.opt none) :: ((s.toks.map (fun t => (t, Tok.A))) ++ r1.zip r2) := by
  simp only [renderSeg, segToks, List.cons_append, List.zip_cons_cons, List.cons.injEq, true_and]
  induction s.toks with
  | nil => rfl
  | cons t ts ih => simp [ih]

/-! ### `_get_values` in terms of the per-token converter -/

/-- the value argparse hands to an action for converted items `vs` (`_get_values`) -/
def segVal (n : NArgs) (vs : List Scalar) : Val :=
  match vs, n with
  | [], .opt => .sc .none
  | [v], .one => .sc v
  | [v], .opt => .sc v
  | _, _ => .list vs

/-- a converted non-empty token list: the head through `getValue`, the rest with the counters it left -/
theorem getValuesList_cons_ok {fenv : FEnv} {act : Act} {i : Nat} {cs cs' : List Nat} {t : Str}
    {ts : List Str} {vs : List Scalar} (h : getValuesList fenv act i cs (t :: ts) = .ok (vs, cs')) :
    ∃ v c1 vs', getValue fenv act i cs t = .ok (v, c1) ∧
      getValuesList fenv act i c1 ts = .ok (vs', cs') ∧ vs = v :: vs' := by
  rw [getValuesList] at h
  cases h1 : getValue fenv act i cs t with
  | error e => rw [h1] at h; cases h
  | ok p =>
    cases h2 : getValuesList fenv act i p.2 ts with
    | error e => simp only [h1, h2] at h; cases h
    | ok q =>
      simp only [h1, h2] at h
      cases h
      exact ⟨p.1, p.2, q.1, rfl, h2, rfl⟩

theorem getValuesList_length (fenv : FEnv) (act : Act) (i : Nat) (cs cs' : List Nat)
    (toks : List Str) (vs : List Scalar) (h : getValuesList fenv act i cs toks = .ok (vs, cs')) :
    vs.length = toks.length := by
  induction toks generalizing cs vs with
  | nil => cases h; rfl
  | cons t ts ih =>
    obtain ⟨v, c1, vs', _, h2, rfl⟩ := getValuesList_cons_ok h
    exact congrArg (· + 1) (ih c1 vs' h2)

theorem getValuesList_single (fenv : FEnv) (act : Act) (i : Nat) (cs : List Nat) (s : Str) :
    getValuesList fenv act i cs [s] =
      (match getValue fenv act i cs s with
       | .error e => .error e
       | .ok (v, c1) => .ok ([v], c1)) := by
  simp only [getValuesList]
  cases getValue fenv act i cs s <;> rfl

/-- `_get_values` succeeds exactly when the per-token conversion does, with the packaged value -/
theorem getValues_ok_iff (fenv : FEnv) (act : Act) (i : Nat) (cs : List Nat) (toks : List Str) :
    getValues fenv act i cs toks =
      (match getValuesList fenv act i cs toks with
       | .error e => .error e
       | .ok (vs, c1) => .ok (segVal act.nargs vs, c1)) := by
  unfold getValues
  generalize act.nargs = n
  split
  · rfl
  · rw [getValuesList_single]; cases getValue fenv act i cs _ <;> rfl
  · rw [getValuesList_single]; cases getValue fenv act i cs _ <;> rfl
  · rename_i hnil hone hopt
    cases h : getValuesList fenv act i cs toks with
    | error e => rfl
    | ok p =>
      -- as many values as tokens: `segVal` is in its last case as well
      have hlen := getValuesList_length fenv act i cs p.2 toks p.1 h
      have : segVal n p.1 = .list p.1 := by
        unfold segVal
        split
        · rename_i hv
          rw [hv] at hlen
          exact (hnil (List.eq_nil_of_length_eq_zero hlen.symm) rfl).elim
        · rename_i v hv
          rw [hv] at hlen
          obtain ⟨s, hs⟩ := List.length_eq_one_iff.mp hlen.symm
          exact (hone s hs rfl).elim
        · rename_i v hv
          rw [hv] at hlen
          obtain ⟨s, hs⟩ := List.length_eq_one_iff.mp hlen.symm
          exact (hopt s hs rfl).elim
        · rfl
      simp only [Except.map, this]

/-! ### the loop at an option token -/

/-- the loop at an option token of a non-help action, without `=value`: `_match_argument` decides
    how many of the following tokens `take_action` gets -/
theorem consume_option_none (fenv : FEnv) {tbl : List Act} (fuel : Nat) (st : St) (a : Str) {i : Nat}
    (o : Str) (rest : List (Str × Tok)) {act : Act} (hact : tbl[i]? = some act)
    (hk : act.kind ≠ .help) :
    consume fenv tbl (fuel + 1) st ((a, .O (some i) o none) :: rest) =
      match matchCount act.nargs (rest.map (·.2)) with
      | none => .error (.exit 2 .nargs)
      | some k =>
        match takeAction fenv tbl st i o ((rest.take k).map (·.1)) with
        | .error x => .error x
        | .ok st' => consume fenv tbl fuel st' (rest.drop k) := by
  simp only [consume, hact, hk, ↓reduceIte]
  rfl

/-! ### closure counters -/

theorem bump_getD (cs : List Nat) (i : Nat) (hi : i < cs.length) :
    (bump cs i).getD i 0 = cs.getD i 0 + 1 := by
  unfold bump
  simp [List.getD_eq_getElem?_getD, hi]

theorem bump_getD_ne (cs : List Nat) (i j : Nat) (h : j ≠ i) : (bump cs i).getD j 0 = cs.getD j 0 := by
  unfold bump
  simp [List.getD_eq_getElem?_getD, h.symm]

theorem bump_length (cs : List Nat) (i : Nat) : (bump cs i).length = cs.length := by
  simp [bump]

/-! ### the namespace -/

theorem mem_setKey {ns : List (Str × Val)} {k : Str} {v : Val} {p : Str × Val}
    (h : p ∈ setKey ns k v) : p = (k, v) ∨ p ∈ ns := by
  unfold setKey at h
  split at h
  · obtain ⟨q, hq, rfl⟩ := List.mem_map.mp h
    split
    · exact Or.inl rfl
    · exact Or.inr hq
  · rcases List.mem_append.mp h with h | h
    · exact Or.inr h
    · exact Or.inl (List.mem_singleton.mp h)

/-- the initial namespace holds declared defaults only -/
theorem mem_initNs {tbl : List Act} {p : Str × Val} (h : p ∈ initNs tbl) :
    ∃ a ∈ tbl, a.dest = p.1 ∧ a.default = some p.2 := by
  have key : ∀ (l : List Act) (ns : List (Str × Val)),
      p ∈ l.foldl (fun ns a => match a.default with
        | some d => if ns.any (fun p => p.1 = a.dest) then ns else ns ++ [(a.dest, d)]
        | none => ns) ns → p ∈ ns ∨ ∃ a ∈ l, a.dest = p.1 ∧ a.default = some p.2 := by
    intro l
    induction l with
    | nil => exact fun ns h => Or.inl h
    | cons a as ih =>
      intro ns h
      rcases ih _ h with h1 | ⟨b, hb, hd⟩
      · dsimp only at h1
        cases hdef : a.default with
        | none => rw [hdef] at h1; exact Or.inl h1
        | some d =>
          rw [hdef] at h1
          dsimp only at h1
          split at h1
          · exact Or.inl h1
          · rcases List.mem_append.mp h1 with h2 | h2
            · exact Or.inl h2
            · cases List.mem_singleton.mp h2
              exact Or.inr ⟨a, List.mem_cons_self, rfl, hdef⟩
      · exact Or.inr ⟨b, List.mem_cons_of_mem _ hb, hd⟩
  rcases key tbl [] h with h | h
  · cases h
  · exact h

end SpVerif
