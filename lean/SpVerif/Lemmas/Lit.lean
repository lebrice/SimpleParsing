import SpVerif.Lemmas.LitAttr

/-- The characters of a string literal.  `"abc"` is definitionally `String.ofList ['a', 'b', 'c']`,
    so `h` is closed by `rfl`; evaluating `"abc".toList` instead runs the UTF-8 encoder and decoder
    inside the kernel, at a price per character that dwarfs the model's own work on the text.
    As a rewrite rule it is used in the form `String.toList_lit rfl`: `s` stays a pattern variable
    (so it matches a literal, which `String.toList_ofList` itself does not) and `l` is found by
    unifying the literal with `String.ofList l`. -/
theorem String.toList_lit {s : String} {l : List Char} (h : s = String.ofList l) : s.toList = l :=
  h ▸ String.toList_ofList

attribute [lit] List.map_cons List.map_nil

/-- `decide` for closed statements about test data tagged `@[lit]`: the data is unfolded and every
    `"…".toList` replaced by its characters through `String.toList_lit`, then the kernel evaluates. -/
macro "decide_lit" : tactic => `(tactic| (simp only [String.toList_lit rfl, lit] <;> decide +kernel))

/-- The same preparation followed by `rfl`, for equations between values without decidable equality. -/
macro "rfl_lit" : tactic => `(tactic| (simp only [String.toList_lit rfl, lit] <;> rfl))
