/-
  Characterisation of the consuming half of `Model/Engine` (used by Props/C04), one function at a
  time: what a successful / failed `getValue`, `getValuesList`, `takeAction`, `finish` looks like,
  and the main loop `consume` one step at a time — a successful run is a chain of `Step`s, a failing
  run is a chain of `Step`s followed by a failure AT one option token (`ErrAt`).  The invariant and
  rejection theorems of C04 about arbitrary command lines are arguments over these lemmas.
-/
import SpVerif.Lemmas.Engine
namespace SpVerif

/-- tokens the loop moves to the leftovers: arguments, `--`, and option-looking tokens no action owns -/
def Tok.isSkip : Tok → Bool
  | .A => true
  | .dd => true
  | .O none _ _ => true
  | .O (some _) _ _ => false

theorem Tok.isSkip_false {t : Tok} (h : t.isSkip = false) : ∃ i o ex, t = .O (some i) o ex := by
  cases t with
  | A => cases h
  | dd => cases h
  | O a o ex =>
    cases a with
    | none => cases h
    | some i => exact ⟨i, o, ex, rfl⟩

/-! ### converting the tokens of one option occurrence -/

/-- a converted token: the `type=` callable accepted it at the current closure position, the
    `choices` (if any) contain it, and the counter moves on exactly for a `parse_tuple` closure -/
theorem getValue_ok_inv {fenv : FEnv} {act : Act} {i : Nat} {cs cs' : List Nat} {s : Str} {v : Scalar}
    (h : getValue fenv act i cs s = .ok (v, cs')) :
    act.conv.apply fenv (cs.getD i 0) s = .ok v ∧
      (∀ ch, act.choices = some ch → ∃ u, v = .str u ∧ ch.contains u = true) ∧
      cs' = (match act.conv with | .tupleCounter _ => bump cs i | _ => cs) := by
  cases hap : act.conv.apply fenv (cs.getD i 0) s with
  | ok w =>
    have hcs : ∀ c, (match act.conv, ConvOut.ok w with
        | .tupleCounter _, .ok _ => bump cs i
        | _, _ => cs) = c → c = (match act.conv with | .tupleCounter _ => bump cs i | _ => cs) := by
      intro c hc; rw [← hc]; cases act.conv <;> rfl
    cases hch : act.choices with
    | none =>
      simp only [getValue, hap, hch, Except.ok.injEq, Prod.mk.injEq] at h
      exact ⟨congrArg _ h.1, fun ch hc => (by cases hc), hcs _ h.2⟩
    | some ch =>
      simp only [getValue, hap, hch] at h
      split at h
      · split at h
        · rename_i t hin
          simp only [Except.ok.injEq, Prod.mk.injEq] at h
          refine ⟨congrArg _ h.1, ?_, hcs _ h.2⟩
          intro ch' hc
          cases hc
          exact ⟨t, h.1.symm, hin⟩
        · cases h
      · cases h
  | _ => simp only [getValue, hap] at h; cases h

/-- failures of the `type=` / `choices=` check of action `act`; an exception is one that the
    `type=` callable itself raised -/
def ConvErr (fenv : FEnv) (act : Act) (e : EOut) : Prop :=
  e = .exit 2 .type ∨ e = .exit 2 .choice ∨
    (∃ x k t, act.conv.apply fenv k t = .raise x ∧ e = .raise x) ∨
    e = .unmodelled "type conversion outside the modelled fragment"

theorem getValue_err {fenv : FEnv} {act : Act} {i : Nat} {cs : List Nat} {s : Str} {e : EOut}
    (h : getValue fenv act i cs s = .error e) : ConvErr fenv act e := by
  cases hap : act.conv.apply fenv (cs.getD i 0) s with
  | typeErr => simp only [getValue, hap] at h; cases h; exact Or.inl rfl
  | raise x =>
    simp only [getValue, hap] at h; cases h
    exact Or.inr (Or.inr (Or.inl ⟨x, _, s, hap, rfl⟩))
  | unmodelled => simp only [getValue, hap] at h; cases h; exact Or.inr (Or.inr (Or.inr rfl))
  | ok w =>
    simp only [getValue, hap] at h
    split at h
    · split at h
      · split at h
        · cases h
        · cases h; exact Or.inr (Or.inl rfl)
      · cases h; exact Or.inr (Or.inl rfl)
    · cases h

theorem getValuesList_err {fenv : FEnv} {act : Act} {i : Nat} {cs : List Nat} {toks : List Str}
    {e : EOut} (h : getValuesList fenv act i cs toks = .error e) : ConvErr fenv act e := by
  induction toks generalizing cs with
  | nil => cases h
  | cons t ts ih =>
    simp only [getValuesList] at h
    cases h1 : getValue fenv act i cs t with
    | error e1 => rw [h1] at h; cases h; exact getValue_err h1
    | ok p =>
      rw [h1] at h
      cases h2 : getValuesList fenv act i p.2 ts with
      | error e2 => simp only [h2] at h; cases h; exact ih h2
      | ok q => simp only [h2] at h; cases h

/-! ### `take_action` -/

/-- what a successful `take_action` does: the tokens are converted one by one, the packaged value
    (for a boolean flag: some boolean) is stored under the action's dest, the action is marked as
    seen, the closure counters are those the conversion left -/
theorem takeAction_ok_inv {fenv : FEnv} {tbl : List Act} {st st' : St} {i : Nat} {o : Str}
    {args : List Str} (h : takeAction fenv tbl st i o args = .ok st') :
    ∃ act vs cs v, tbl[i]? = some act ∧ getValuesList fenv act i st.counters args = .ok (vs, cs) ∧
      st' = { st with ns := setKey st.ns act.dest v, seen := i :: st.seen, counters := cs } ∧
      ((act.kind = .store ∧ v = segVal act.nargs vs) ∨
        ∃ negs b, act.kind = .boolOpt negs ∧ v = .sc (.bool b)) := by
  unfold takeAction at h
  cases hact : tbl[i]? with
  | none => simp only [hact] at h; cases h
  | some act =>
    simp only [hact, getValues_ok_iff] at h
    cases hl : getValuesList fenv act i st.counters args with
    | error e => simp only [hl] at h; split at h <;> cases h
    | ok p =>
      simp only [hl] at h
      refine ⟨act, p.1, p.2, ?_⟩
      cases hk : act.kind with
      | help => simp only [hk] at h; cases h
      | store =>
        simp only [hk, Except.ok.injEq] at h
        exact ⟨_, rfl, hl, h.symm, Or.inl ⟨rfl, rfl⟩⟩
      | boolOpt negs =>
        simp only [hk] at h
        split at h
        · simp only [Except.ok.injEq] at h
          exact ⟨_, rfl, hl, h.symm, Or.inr ⟨negs, _, rfl, rfl⟩⟩
        · split at h
          · cases h
          · simp only [Except.ok.injEq] at h
            exact ⟨_, rfl, hl, h.symm, Or.inr ⟨negs, _, rfl, rfl⟩⟩
        · cases h

/-- the errors `take_action` can end in for a non-help action: a failed conversion, the
    negative-flag rule, or the `ValueError` of `BooleanOptionalAction` for a value that is neither
    `None` nor a bool — which an action as simple-parsing builds it (`nargs='?'`, `type=str2bool`)
    never sees -/
def ActErr (fenv : FEnv) (act : Act) (e : EOut) : Prop :=
  ConvErr fenv act e ∨ ∃ negs, act.kind = .boolOpt negs ∧
    (e = .exit 2 .negflag ∨
      (e = .raise "ValueError".toList ∧ ¬ (act.nargs = .opt ∧ act.conv = .base .bool)))

theorem takeAction_err {fenv : FEnv} {tbl : List Act} {st : St} {i : Nat} {o : Str}
    {args : List Str} {e : EOut} {act : Act} (hact : tbl[i]? = some act) (hk : act.kind ≠ .help)
    (har : arityOk act.nargs args.length) (h : takeAction fenv tbl st i o args = .error e) :
    ActErr fenv act e := by
  unfold takeAction at h
  simp only [hact, getValues_ok_iff] at h
  cases hl : getValuesList fenv act i st.counters args with
  | error e1 =>
    have : e1 = e := by
      simp only [hl] at h
      split at h
      · exact absurd ‹_› hk
      · cases h; rfl
      · cases h; rfl
    exact Or.inl (this ▸ getValuesList_err hl)
  | ok p =>
    simp only [hl] at h
    cases hkind : act.kind with
    | help => exact absurd hkind hk
    | store => simp only [hkind] at h; cases h
    | boolOpt negs =>
      simp only [hkind] at h
      refine Or.inr ⟨negs, hkind, ?_⟩
      split at h
      · cases h
      · split at h
        · cases h; exact Or.inl rfl
        · cases h
      · rename_i hnone hbool
        cases h
        refine Or.inr ⟨rfl, ?_⟩
        -- `nargs='?'` grants at most one token, `str2bool` turns it into a bool
        rintro ⟨hn, hc⟩
        rw [hn] at har hnone hbool
        cases args with
        | nil =>
          simp only [getValuesList, Except.ok.injEq] at hl
          exact hnone (by rw [← hl]; rfl)
        | cons t ts =>
          cases ts with
          | cons _ _ => exact absurd har (by simp [arityOk])
          | nil =>
            rw [getValuesList_single] at hl
            cases hg : getValue fenv act i st.counters t with
            | error e1 => rw [hg] at hl; cases hl
            | ok q =>
              rw [hg] at hl
              simp only [Except.ok.injEq] at hl
              have hap := (getValue_ok_inv hg).1
              simp only [hc, Conv.apply, BConv.apply] at hap
              split at hap
              · exact hbool _ (by rw [← hl, ← ConvOut.ok.inj hap]; rfl)
              · cases hap

end SpVerif

namespace SpVerif.Loop
open SpVerif

/-- how an option occurrence takes its arguments: the explicit `=value` (then the action's `nargs`
    must admit exactly one argument), or the `k` following argument tokens `_match_argument` grants -/
def Taken (n : NArgs) (ex : Option Str) (rest : List (Str × Tok)) (args : List Str)
    (rest2 : List (Str × Tok)) : Prop :=
  match ex with
  | some e => args = [e] ∧ rest2 = rest ∧ arityOk n 1
  | none => ∃ k, matchCount n (rest.map (·.2)) = some k ∧ args = (rest.take k).map (·.1) ∧
      rest2 = rest.drop k

/-- one successful iteration of the loop: state and remaining input before → after -/
inductive Step (fenv : FEnv) (tbl : List Act) :
    St → (Str × Tok) → List (Str × Tok) → St → List (Str × Tok) → Prop
  | skip (st : St) (a : Str) (t : Tok) (rest : List (Str × Tok)) : t.isSkip = true →
      Step fenv tbl st (a, t) rest { st with extras := st.extras ++ [a] } rest
  | act (st : St) (a : Str) (i : Nat) (o : Str) (ex : Option Str) (rest : List (Str × Tok))
      (act : Act) (args : List Str) (st2 : St) (rest2 : List (Str × Tok)) :
      tbl[i]? = some act → act.kind ≠ .help → Taken act.nargs ex rest args rest2 →
      takeAction fenv tbl st i o args = .ok st2 →
      Step fenv tbl st (a, .O (some i) o ex) rest st2 rest2

theorem countA_le_length (l : List Tok) : countA l ≤ l.length := by
  induction l with
  | nil => exact Nat.le_refl 0
  | cons t ts ih =>
    cases t with
    | A => exact Nat.succ_le_succ ih
    | dd => exact Nat.zero_le _
    | O _ _ _ => exact Nat.zero_le _

theorem Taken.facts {n : NArgs} {ex : Option Str} {rest : List (Str × Tok)} {args : List Str}
    {rest2 : List (Str × Tok)} (h : Taken n ex rest args rest2) :
    arityOk n args.length ∧ ∃ k, rest2 = rest.drop k ∧ k ≤ countA (rest.map (·.2)) := by
  cases ex with
  | some e =>
    obtain ⟨ha, hr, hn⟩ := h
    subst ha; subst hr
    exact ⟨hn, 0, rfl, Nat.zero_le _⟩
  | none =>
    obtain ⟨k, hm, ha, hr⟩ := h
    obtain ⟨h1, h2, _⟩ := matchCount_iff.mp hm
    subst ha; subst hr
    refine ⟨?_, k, rfl, h2⟩
    have : k ≤ rest.length :=
      Nat.le_trans h2 (List.length_map (as := rest) (·.2) ▸ countA_le_length (rest.map (·.2)))
    simpa [List.length_take, Nat.min_eq_left this] using h1

/-- after a step the remaining input is a suffix of the previous remaining input, and only
    argument tokens were dropped -/
theorem Step.rest_drop {fenv : FEnv} {tbl : List Act} {st : St} {p : Str × Tok}
    {rest : List (Str × Tok)} {st2 : St} {rest2 : List (Str × Tok)}
    (h : Step fenv tbl st p rest st2 rest2) :
    ∃ k, rest2 = rest.drop k ∧ k ≤ countA (rest.map (·.2)) := by
  cases h with
  | skip => exact ⟨0, rfl, Nat.zero_le _⟩
  | act => exact Taken.facts (by assumption) |>.2

theorem countA_append_stop (ps : List (Str × Tok)) (x : Str × Tok) (post : List (Str × Tok))
    (hx : x.2 ≠ .A) : countA ((ps ++ x :: post).map (·.2)) ≤ ps.length := by
  induction ps with
  | nil =>
    obtain ⟨a, t⟩ := x
    cases t with
    | A => exact absurd rfl hx
    | dd => exact Nat.le_refl 0
    | O _ _ _ => exact Nat.le_refl 0
  | cons q qs ih =>
    obtain ⟨a, t⟩ := q
    cases t with
    | A => exact Nat.succ_le_succ ih
    | dd => exact Nat.zero_le _
    | O _ _ _ => exact Nat.zero_le _

/-- an option token further right is never swallowed as an argument of an earlier option -/
theorem Step.keeps_option {fenv : FEnv} {tbl : List Act} {st : St} {p : Str × Tok}
    {ps : List (Str × Tok)} {x : Str × Tok} {post : List (Str × Tok)} {st2 : St}
    {rest2 : List (Str × Tok)} (h : Step fenv tbl st p (ps ++ x :: post) st2 rest2) (hx : x.2 ≠ .A) :
    ∃ ps', rest2 = ps' ++ x :: post := by
  obtain ⟨k, hk, hle⟩ := h.rest_drop
  have := countA_append_stop ps x post hx
  refine ⟨ps.drop k, ?_⟩
  rw [hk, List.drop_append_of_le_length (Nat.le_trans hle this)]

/-- the ways the loop can fail AT an option token owned by action `i` -/
def ErrAt (fenv : FEnv) (tbl : List Act) (i : Nat) (e : EOut) : Prop :=
  (tbl[i]? = none ∧ e = .unmodelled "bad action index") ∨
  ∃ act, tbl[i]? = some act ∧
    ((act.kind = .help ∧
        (e = .exit 0 .help ∨ e = .exit 2 .explicit ∨ e = .unmodelled "single-dash cluster")) ∨
     (act.kind ≠ .help ∧ (e = .exit 2 .nargs ∨ ActErr fenv act e)))

/-- at a token of a non-help action the loop either refuses the number of arguments, or hands the
    arguments it `Taken` to `take_action` and goes on behind them -/
theorem consume_option (fenv : FEnv) (tbl : List Act) (fuel : Nat) (st : St) (a : Str) (i : Nat)
    (o : Str) (ex : Option Str) (rest : List (Str × Tok)) (act : Act) (hact : tbl[i]? = some act)
    (hk : act.kind ≠ .help) :
    consume fenv tbl (fuel + 1) st ((a, .O (some i) o ex) :: rest) = .error (.exit 2 .nargs) ∨
    ∃ args rest2, Taken act.nargs ex rest args rest2 ∧
      consume fenv tbl (fuel + 1) st ((a, .O (some i) o ex) :: rest) =
        match takeAction fenv tbl st i o args with
        | .error x => .error x
        | .ok st2 => consume fenv tbl fuel st2 rest2 := by
  cases ex with
  | some x =>
    simp only [consume, hact, hk, ↓reduceIte]
    cases hn : act.nargs with
    | num m =>
      by_cases hm : m = 1
      · subst hm; exact Or.inr ⟨[x], rest, ⟨rfl, rfl, rfl⟩, rfl⟩
      · exact Or.inl (by simp only [hm, ↓reduceIte])
    | one => exact Or.inr ⟨[x], rest, ⟨rfl, rfl, rfl⟩, rfl⟩
    | opt => exact Or.inr ⟨[x], rest, ⟨rfl, rfl, Nat.le_refl 1⟩, rfl⟩
    | star => exact Or.inr ⟨[x], rest, ⟨rfl, rfl, trivial⟩, rfl⟩
    | plus => exact Or.inr ⟨[x], rest, ⟨rfl, rfl, Nat.le_refl 1⟩, rfl⟩
  | none =>
    rw [consume_option_none fenv fuel st a o rest hact hk]
    cases hm : matchCount act.nargs (rest.map (·.2)) with
    | none => exact Or.inl rfl
    | some k => exact Or.inr ⟨_, _, ⟨k, hm, rfl, rfl⟩, rfl⟩

/-- **one iteration of the loop**: either a `Step`, after which the loop goes on with what the
    step left, or a failure at the head token, which then is an option token owned by an action -/
theorem consume_cons (fenv : FEnv) (tbl : List Act) (fuel : Nat) (st : St) (p : Str × Tok)
    (rest : List (Str × Tok)) :
    (∃ st2 rest2, Step fenv tbl st p rest st2 rest2 ∧
      consume fenv tbl (fuel + 1) st (p :: rest) = consume fenv tbl fuel st2 rest2) ∨
    (∃ i o ex e, p.2 = .O (some i) o ex ∧ ErrAt fenv tbl i e ∧
      consume fenv tbl (fuel + 1) st (p :: rest) = .error e) := by
  obtain ⟨a, t⟩ := p
  cases hsk : t.isSkip with
  | true =>
    refine Or.inl ⟨_, _, .skip st a t rest hsk, ?_⟩
    match t, hsk with
    | .A, _ => rfl
    | .dd, _ => rfl
    | .O none _ _, _ => rfl
  | false =>
    obtain ⟨i, o, ex, rfl⟩ := Tok.isSkip_false hsk
    cases hact : tbl[i]? with
    | none =>
      exact Or.inr ⟨i, o, ex, _, rfl, Or.inl ⟨hact, rfl⟩, by cases ex <;> simp only [consume, hact]⟩
    | some act =>
      by_cases hk : act.kind = .help
      · have : ∃ e, (e = .exit 0 .help ∨ e = .exit 2 .explicit ∨
            e = .unmodelled "single-dash cluster") ∧
            consume fenv tbl (fuel + 1) st ((a, .O (some i) o ex) :: rest) = .error e := by
          cases ex with
          | none => exact ⟨_, Or.inl rfl, by simp only [consume, hact, hk, ↓reduceIte]⟩
          | some x =>
            simp only [consume, hact, hk, ↓reduceIte]
            split
            · exact ⟨_, Or.inr (Or.inl rfl), rfl⟩
            · exact ⟨_, Or.inr (Or.inr rfl), rfl⟩
        obtain ⟨e, he, heq⟩ := this
        exact Or.inr ⟨i, o, ex, e, rfl, Or.inr ⟨act, hact, Or.inl ⟨hk, he⟩⟩, heq⟩
      · rcases consume_option fenv tbl fuel st a i o ex rest act hact hk with hn | ⟨args, rest2, htk, heq⟩
        · exact Or.inr ⟨i, o, ex, _, rfl, Or.inr ⟨act, hact, Or.inr ⟨hk, Or.inl rfl⟩⟩, hn⟩
        · cases ht : takeAction fenv tbl st i o args with
          | error e =>
            rw [ht] at heq
            exact Or.inr ⟨i, o, ex, e, rfl,
              Or.inr ⟨act, hact, Or.inr ⟨hk, Or.inr (takeAction_err hact hk htk.facts.1 ht)⟩⟩, heq⟩
          | ok st2 =>
            rw [ht] at heq
            exact Or.inl ⟨st2, rest2, .act st a i o ex rest act args st2 rest2 hact hk htk ht, heq⟩

/-- **success side**: a successful run of the loop on a non-empty input is one `Step` followed by a
    successful run on what the step left -/
theorem consume_ok_step {fenv : FEnv} {tbl : List Act} {fuel : Nat} {st st' : St}
    {p : Str × Tok} {rest : List (Str × Tok)}
    (h : consume fenv tbl (fuel + 1) st (p :: rest) = .ok st') :
    ∃ st2 rest2, Step fenv tbl st p rest st2 rest2 ∧ consume fenv tbl fuel st2 rest2 = .ok st' := by
  rcases consume_cons fenv tbl fuel st p rest with ⟨st2, rest2, hstep, heq⟩ | ⟨_, _, _, _, _, _, heq⟩
  · exact ⟨st2, rest2, hstep, heq ▸ h⟩
  · rw [heq] at h; cases h

/-- **invariants**: a property of the state that every step (at a token of the input) preserves
    holds after any successful run of the loop -/
theorem consume_inv {fenv : FEnv} {tbl : List Act} {P : St → Prop} {fuel : Nat} {st st' : St}
    {l : List (Str × Tok)}
    (hP : ∀ st p rest st2 rest2, p ∈ l → P st → Step fenv tbl st p rest st2 rest2 → P st2)
    (h : consume fenv tbl fuel st l = .ok st') (hp : P st) : P st' := by
  -- by induction on the fuel, for every remaining part `l'` of the input
  suffices ∀ fuel st (l' : List (Str × Tok)), (∀ p ∈ l', p ∈ l) →
      consume fenv tbl fuel st l' = .ok st' → P st → P st' from this fuel st l (fun _ hp => hp) h hp
  intro fuel
  induction fuel with
  | zero =>
    intro st l' _ h hp
    cases l' with
    | nil => cases h; exact hp
    | cons p ps => cases h
  | succ n ih =>
    intro st l' hsub h hp
    cases l' with
    | nil => cases h; exact hp
    | cons p ps =>
      obtain ⟨st2, rest2, hstep, hc⟩ := consume_ok_step h
      obtain ⟨k, hk, _⟩ := hstep.rest_drop
      refine ih st2 rest2 ?_ hc (hP st p ps st2 rest2 (hsub p List.mem_cons_self) hp hstep)
      intro q hq
      rw [hk] at hq
      exact hsub q (List.mem_cons_of_mem _ (List.mem_of_mem_drop hq))

/-- **every owned option token is reached**: in a successful run, the loop arrives at each option
    token that an action owns with that token at the head of the remaining input (it is never
    swallowed as an argument), in a state satisfying every step-invariant of the start state -/
theorem consume_reaches {fenv : FEnv} {tbl : List Act} {P : St → Prop}
    (hP : ∀ st p rest st2 rest2, P st → Step fenv tbl st p rest st2 rest2 → P st2)
    {fuel : Nat} {st st' : St} {pre : List (Str × Tok)} {x : Str × Tok} {post : List (Str × Tok)}
    (hx : x.2 ≠ .A) (h : consume fenv tbl fuel st (pre ++ x :: post) = .ok st') (hp : P st) :
    ∃ fuel1 st1, P st1 ∧ consume fenv tbl (fuel1 + 1) st1 (x :: post) = .ok st' := by
  induction fuel generalizing st pre with
  | zero => cases pre <;> cases h
  | succ n ih =>
    cases pre with
    | nil => exact ⟨n, st, hp, h⟩
    | cons p ps =>
      obtain ⟨st2, rest2, hstep, hc⟩ := consume_ok_step h
      obtain ⟨ps', hps⟩ := hstep.keeps_option hx
      rw [hps] at hc
      exact ih hc (hP st p _ st2 rest2 hp hstep)

/-- **where a failure comes from**: a failing run with enough fuel fails at an owned option token -/
theorem consume_err_trace {fenv : FEnv} {tbl : List Act} {fuel : Nat} {st : St}
    {l : List (Str × Tok)} {e : EOut} (hl : l.length ≤ fuel)
    (h : consume fenv tbl fuel st l = .error e) :
    ∃ a i o ex, (a, Tok.O (some i) o ex) ∈ l ∧ ErrAt fenv tbl i e := by
  induction fuel generalizing st l with
  | zero =>
    cases l with
    | nil => cases h
    | cons p ps => simp at hl
  | succ n ih =>
    cases l with
    | nil => cases h
    | cons p ps =>
      rcases consume_cons fenv tbl n st p ps with ⟨st2, rest2, hstep, heq⟩ | ⟨i, o, ex, e', hp, herr, heq⟩
      · obtain ⟨k, hk, _⟩ := hstep.rest_drop
        have hlen : rest2.length ≤ n :=
          hk ▸ List.length_drop ▸ Nat.le_trans (Nat.sub_le _ _) (Nat.le_of_succ_le_succ hl)
        obtain ⟨a, i, o, ex, hm, herr⟩ := ih hlen (heq ▸ h)
        rw [hk] at hm
        exact ⟨a, i, o, ex, List.mem_cons_of_mem _ (List.mem_of_mem_drop hm), herr⟩
      · obtain ⟨a, t⟩ := p
        rw [heq] at h
        cases h
        cases hp
        exact ⟨a, i, o, ex, List.mem_cons_self, herr⟩

/-- inversion: a step at an owned option token with an explicit `=value` -/
theorem Step.inv_some {fenv : FEnv} {tbl : List Act} {st : St} {a : Str} {i : Nat} {o e : Str}
    {rest : List (Str × Tok)} {st2 : St} {rest2 : List (Str × Tok)}
    (h : Step fenv tbl st (a, .O (some i) o (some e)) rest st2 rest2) :
    ∃ act, tbl[i]? = some act ∧ act.kind ≠ .help ∧ arityOk act.nargs 1 ∧
      takeAction fenv tbl st i o [e] = .ok st2 ∧ rest2 = rest := by
  cases h
  case skip hs => cases hs
  case act ac args hk hact htake ht =>
    obtain ⟨rfl, rfl, hn⟩ := ht
    exact ⟨ac, hact, hk, hn, htake, rfl⟩

/-- inversion: a step at an owned option token without explicit value -/
theorem Step.inv_none {fenv : FEnv} {tbl : List Act} {st : St} {a : Str} {i : Nat} {o : Str}
    {rest : List (Str × Tok)} {st2 : St} {rest2 : List (Str × Tok)}
    (h : Step fenv tbl st (a, .O (some i) o none) rest st2 rest2) :
    ∃ act k, tbl[i]? = some act ∧ act.kind ≠ .help ∧
      matchCount act.nargs (rest.map (·.2)) = some k ∧
      takeAction fenv tbl st i o ((rest.take k).map (·.1)) = .ok st2 ∧ rest2 = rest.drop k := by
  cases h
  case skip hs => cases hs
  case act ac args hk hact htake ht =>
    obtain ⟨k, hm, rfl, rfl⟩ := ht
    exact ⟨ac, k, hact, hk, hm, htake, rfl⟩

/-- inversion: a step at a skipped token only extends the leftovers -/
theorem Step.inv_skip {fenv : FEnv} {tbl : List Act} {st : St} {a : Str} {t : Tok}
    {rest : List (Str × Tok)} {st2 : St} {rest2 : List (Str × Tok)}
    (h : Step fenv tbl st (a, t) rest st2 rest2) (hs : t.isSkip = true) :
    st2 = { st with extras := st.extras ++ [a] } ∧ rest2 = rest := by
  cases h
  case skip => exact ⟨rfl, rfl⟩
  case act => cases hs

/-- inversion: a step at ANY owned option token is one successful `take_action` with a number of
    arguments that fits the action's `nargs` -/
theorem Step.inv_act {fenv : FEnv} {tbl : List Act} {st : St} {a : Str} {i : Nat} {o : Str}
    {ex : Option Str} {rest : List (Str × Tok)} {st2 : St} {rest2 : List (Str × Tok)}
    (h : Step fenv tbl st (a, .O (some i) o ex) rest st2 rest2) :
    ∃ ac args, tbl[i]? = some ac ∧ ac.kind ≠ .help ∧ arityOk ac.nargs args.length ∧
      takeAction fenv tbl st i o args = .ok st2 := by
  cases h
  case skip hs => cases hs
  case act ac args hk hact htake ht => exact ⟨ac, args, hact, hk, ht.facts.1, htake⟩

/-- a step either skips a token (only the leftovers grow) or is one `take_action` -/
theorem Step.cases' {fenv : FEnv} {tbl : List Act} {st : St} {p : Str × Tok}
    {rest : List (Str × Tok)} {st2 : St} {rest2 : List (Str × Tok)}
    (h : Step fenv tbl st p rest st2 rest2) :
    (st2 = { st with extras := st.extras ++ [p.1] }) ∨
    (∃ i o ex ac args, p.2 = .O (some i) o ex ∧ tbl[i]? = some ac ∧ ac.kind ≠ .help ∧
      arityOk ac.nargs args.length ∧ takeAction fenv tbl st i o args = .ok st2) := by
  cases h
  case skip => exact Or.inl rfl
  case act i o ex ac args hact hk htake ht =>
    exact Or.inr ⟨i, o, ex, ac, args, rfl, hact, hk, ht.facts.1, htake⟩

end SpVerif.Loop

namespace SpVerif

/-! ### the final pass, and `run` as a whole -/

/-- failures of `finish` at action `a`: its string default does not go through its `type=` -/
def DefaultErr (fenv : FEnv) (a : Act) (e : EOut) : Prop :=
  e = .exit 2 .type ∨ (∃ x k s, a.conv.apply fenv k s = .raise x ∧ e = .raise x) ∨
    e = .unmodelled "default conversion"

/-- **one action of `finish`**: required and missing; or its string default does not go through
    its `type=`; or `finish` goes on with the other actions, in the same state (the action was seen,
    or has no string default still standing in the namespace) or with the converted default stored -/
theorem finish_cons (fenv : FEnv) (tbl : List Act) (st : St) (a : Act) (i : Nat)
    (ps : List (Act × Nat)) :
    (a.required = true ∧ st.seen.contains i = false ∧
      finish fenv tbl st ((a, i) :: ps) = .error (.exit 2 .required)) ∨
    ((a.required = true → st.seen.contains i = true) ∧
      ((∃ e, DefaultErr fenv a e ∧ finish fenv tbl st ((a, i) :: ps) = .error e) ∨
        ∃ st1, finish fenv tbl st ((a, i) :: ps) = finish fenv tbl st1 ps ∧
          (st1 = st ∨ ∃ s k v, a.default = some (.sc (.str s)) ∧ a.conv.apply fenv k s = .ok v ∧
            st1 = { st with ns := setKey st.ns a.dest (.sc v) }))) := by
  generalize hr : finish fenv tbl st ((a, i) :: ps) = r
  rw [finish] at hr
  split at hr
  · rename_i hseen
    exact Or.inr ⟨fun _ => hseen, Or.inr ⟨st, hr.symm, Or.inl rfl⟩⟩
  · rename_i hseen
    split at hr
    · rename_i hreq
      exact Or.inl ⟨hreq, by simpa using hseen, hr.symm⟩
    · rename_i hreq
      refine Or.inr ⟨fun h => absurd h hreq, ?_⟩
      split at hr
      · rename_i s hdef
        split at hr
        · split at hr
          · rename_i v hv
            exact Or.inr ⟨_, hr.symm, Or.inr ⟨s, _, v, hdef, hv, rfl⟩⟩
          · exact Or.inl ⟨_, Or.inl rfl, hr.symm⟩
          · rename_i x hx
            exact Or.inl ⟨_, Or.inr (Or.inl ⟨x, _, s, hx, rfl⟩), hr.symm⟩
          · exact Or.inl ⟨_, Or.inr (Or.inr rfl), hr.symm⟩
        · exact Or.inr ⟨st, hr.symm, Or.inl rfl⟩
      · exact Or.inr ⟨st, hr.symm, Or.inl rfl⟩

/-- what a successful `finish` did: it only touched the namespace, every required action had been
    seen, and every new entry is a string default run through its action's `type=` -/
theorem finish_ok_inv {fenv : FEnv} {tbl : List Act} {l : List (Act × Nat)} {st st' : St}
    (h : finish fenv tbl st l = .ok st') :
    st'.extras = st.extras ∧ st'.seen = st.seen ∧ st'.counters = st.counters ∧
      (∀ p ∈ l, p.1.required = true → st.seen.contains p.2 = true) ∧
      ∀ q ∈ st'.ns, q ∈ st.ns ∨ ∃ p ∈ l, ∃ s k v, p.1.default = some (.sc (.str s)) ∧
        p.1.conv.apply fenv k s = .ok v ∧ q = (p.1.dest, .sc v) := by
  induction l generalizing st with
  | nil => cases h; exact ⟨rfl, rfl, rfl, fun _ hp => (nomatch hp), fun q hq => Or.inl hq⟩
  | cons p ps ih =>
    obtain ⟨a, i⟩ := p
    rcases finish_cons fenv tbl st a i ps with ⟨_, _, heq⟩ | ⟨hreq, ⟨e, _, heq⟩ | ⟨st1, heq, hst1⟩⟩
    · rw [heq] at h; cases h
    · rw [heq] at h; cases h
    · obtain ⟨e1, e2, e3, e4, e5⟩ := ih (heq ▸ h)
      have hsame : st1.extras = st.extras ∧ st1.seen = st.seen ∧ st1.counters = st.counters := by
        rcases hst1 with rfl | ⟨_, _, _, _, _, rfl⟩ <;> exact ⟨rfl, rfl, rfl⟩
      refine ⟨e1.trans hsame.1, e2.trans hsame.2.1, e3.trans hsame.2.2, ?_, ?_⟩
      · intro p hp hr
        rcases List.mem_cons.mp hp with rfl | hp
        · exact hreq hr
        · rw [← hsame.2.1]; exact e4 p hp hr
      · intro q hq
        rcases e5 q hq with hq | ⟨p, hp, hx⟩
        · rcases hst1 with rfl | ⟨s, k, v, hdef, hv, rfl⟩
          · exact Or.inl hq
          · rcases mem_setKey hq with rfl | hq
            · exact Or.inr ⟨(a, i), List.mem_cons_self, s, k, v, hdef, hv, rfl⟩
            · exact Or.inl hq
        · exact Or.inr ⟨p, List.mem_cons_of_mem _ hp, hx⟩

/-- how `finish` fails: a required action was not seen, or a string default does not convert -/
theorem finish_err_inv {fenv : FEnv} {tbl : List Act} {l : List (Act × Nat)} {st : St} {e : EOut}
    (h : finish fenv tbl st l = .error e) :
    e = .exit 2 .required ∨ ∃ p ∈ l, DefaultErr fenv p.1 e := by
  induction l generalizing st with
  | nil => cases h
  | cons p ps ih =>
    obtain ⟨a, i⟩ := p
    rcases finish_cons fenv tbl st a i ps with ⟨_, _, heq⟩ | ⟨_, ⟨e', he, heq⟩ | ⟨st1, heq, _⟩⟩
    · rw [heq] at h; cases h
      exact Or.inl rfl
    · rw [heq] at h; cases h
      exact Or.inr ⟨(a, i), List.mem_cons_self, he⟩
    · rcases ih (heq ▸ h) with h2 | ⟨p, hp, h2⟩
      · exact Or.inl h2
      · exact Or.inr ⟨p, List.mem_cons_of_mem _ hp, h2⟩

/-- `run` unfolded once: lexing, the loop, the final pass -/
theorem run_cases (fenv : FEnv) (tbl : List Act) (cs : List Nat) (argv : List Str) :
    (lexAll tbl argv = .error () ∧ run fenv tbl cs argv = .exit 2 .ambiguous) ∨
    ∃ toks, lexAll tbl argv = .ok toks ∧
      ((∃ e, consume fenv tbl (argv.length + 1) ⟨initNs tbl, [], [], cs⟩ (argv.zip toks) = .error e ∧
          run fenv tbl cs argv = e) ∨
        ∃ st, consume fenv tbl (argv.length + 1) ⟨initNs tbl, [], [], cs⟩ (argv.zip toks) = .ok st ∧
          ((∃ e, finish fenv tbl st tbl.zipIdx = .error e ∧ run fenv tbl cs argv = e) ∨
            ∃ st2, finish fenv tbl st tbl.zipIdx = .ok st2 ∧
              run fenv tbl cs argv = .ok st2.ns st2.extras st2.counters)) := by
  unfold run
  cases lexAll tbl argv with
  | error e => exact Or.inl ⟨rfl, rfl⟩
  | ok toks =>
    refine Or.inr ⟨toks, rfl, ?_⟩
    dsimp only
    cases consume fenv tbl (argv.length + 1) ⟨initNs tbl, [], [], cs⟩ (argv.zip toks) with
    | error e => exact Or.inl ⟨e, rfl, rfl⟩
    | ok st =>
      refine Or.inr ⟨st, rfl, ?_⟩
      dsimp only
      cases finish fenv tbl st tbl.zipIdx with
      | error e => exact Or.inl ⟨e, rfl, rfl⟩
      | ok st2 => exact Or.inr ⟨st2, rfl, rfl⟩

end SpVerif
