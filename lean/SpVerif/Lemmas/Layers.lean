/-
  Helper lemmas about `SpVerif.Model.Layers`: lookups through `dict_union`, paths, and the per-path view of a wrapper
  tree (`slotAt`, `baseAt`): `Slot` for induction along a path, `setF` for what a successful `set_default` leaves,
  `Upd` for what it cannot change; decidable equality of `J`, for the closed test vectors.
-/
import SpVerif.Model.Layers
namespace SpVerif.Layers
open SpVerif

/-! ### lookups through sorting and union -/

theorem strLe_refl : ∀ s : Str, strLe s s = true
  | [] => rfl
  | a :: as => by simp [strLe, strLe_refl as]

theorem dget_insertKey (k : Str) (v : J) (l : Dict) (k' : Str) :
    dget (insertKey k v l) k' = if k = k' then some v else dget l k' := by
  induction l with
  | nil => simp [insertKey, dget]
  | cons e r ih =>
    obtain ⟨k1, v1⟩ := e
    unfold insertKey
    by_cases h : strLe k k1 = true
    · rw [if_pos h]; simp [dget]
    · rw [if_neg h]
      by_cases h1 : k1 = k'
      · have : k ≠ k' := by
          intro hk; apply h; rw [h1, hk]; exact strLe_refl _
        simp [dget, h1, this]
      · simp [dget, h1, ih]

theorem dget_sortKeys (l : Dict) (k : Str) : dget (sortKeys l) k = dget l k := by
  induction l with
  | nil => rfl
  | cons e r ih =>
    obtain ⟨k1, v1⟩ := e
    simp only [sortKeys, dget_insertKey, ih, dget]

theorem dget_append (a b : Dict) (k : Str) :
    dget (a ++ b) k = match dget a k with | some v => some v | none => dget b k := by
  induction a with
  | nil => simp [dget]
  | cons e r ih =>
    obtain ⟨k1, v1⟩ := e
    by_cases h : k1 = k <;> simp [dget, h, ih]

theorem dget_normL (l : Dict) (k : Str) : dget (normL l) k = (dget l k).map norm := by
  induction l with
  | nil => simp [normL, dget]
  | cons e r ih =>
    obtain ⟨k1, v1⟩ := e
    by_cases h : k1 = k <;> simp [normL, dget, h, ih]

theorem dget_mergeL (xs ys : Dict) (k : Str) :
    dget (mergeL xs ys) k = (dget xs k).map (fun x => match dget ys k with
      | none => norm x
      | some y => mergeVal x y) := by
  induction xs with
  | nil => simp [mergeL, dget]
  | cons e r ih =>
    obtain ⟨k1, v1⟩ := e
    by_cases h : k1 = k
    · subst h
      cases h2 : dget ys k1 <;> simp [mergeL, dget, h2]
    · simp [mergeL, dget, h, ih]

theorem dget_filter_notin (xs ys : Dict) (k : Str) :
    dget (ys.filter (fun kv => !hasKey xs kv.1)) k = if hasKey xs k then none else dget ys k := by
  induction ys with
  | nil => simp [dget]
  | cons e r ih =>
    obtain ⟨k1, v1⟩ := e
    by_cases hk : hasKey xs k1 = true
    · simp only [List.filter, hk, Bool.not_true]
      rw [ih]
      by_cases h : k1 = k
      · subst h; simp [hk]
      · simp [dget, h]
    · simp only [Bool.not_eq_true] at hk
      simp only [List.filter, hk, Bool.not_false]
      by_cases h : k1 = k
      · subst h; simp [dget, hk]
      · simp [dget, h, ih]

theorem dget_unionD (xs ys : Dict) (k : Str) :
    dget (unionD xs ys) k =
      match dget xs k, dget ys k with
      | none, none => none
      | some x, none => some (norm x)
      | none, some y => some (norm y)
      | some x, some y => some (mergeVal x y) := by
  unfold unionD
  rw [dget_sortKeys, dget_append, dget_mergeL, dget_normL, dget_filter_notin]
  unfold hasKey
  cases hx : dget xs k <;> cases hy : dget ys k <;> simp

theorem dget_cons (k' : Str) (v : J) (r : Dict) (k : Str) :
    dget ((k', v) :: r) k = if k' = k then some v else dget r k := rfl

theorem getPath_cons (k : Str) (q : List Str) (d : Dict) :
    getPath (k :: q) (.dict d) = (dget d k).bind (getPath q) := by
  simp only [getPath]; cases dget d k <;> rfl

theorem getPath_singleton (k : Str) (d : Dict) : getPath [k] (.dict d) = dget d k := by
  rw [getPath_cons]; cases dget d k <;> rfl

theorem getPath_cons_self (n : Str) (q : List Str) (v : J) (r : Dict) :
    getPath (n :: q) (.dict ((n, v) :: r)) = getPath q v := by
  rw [getPath_cons, dget_cons, if_pos rfl]; rfl

theorem getPath_cons_ne {k n : Str} (h : k ≠ n) (q : List Str) (v : J) (r : Dict) :
    getPath (k :: q) (.dict ((n, v) :: r)) = getPath (k :: q) (.dict r) := by
  rw [getPath_cons, getPath_cons, dget_cons, if_neg (Ne.symm h)]

/-- `dict_union(v)` keeps every path; the values found are themselves re-sorted copies -/
theorem getPath_norm (p : List Str) (j : J) : getPath p (norm j) = (getPath p j).map norm := by
  induction p generalizing j with
  | nil => rfl
  | cons k q ih =>
    cases j with
    | dict kvs =>
      rw [norm, getPath, getPath, dget_sortKeys, dget_normL]
      cases dget kvs k with
      | none => rfl
      | some v => exact ih v
    | _ => rfl

theorem getPath_sectionOf (n k : Str) (q : List Str) (cmd : Dict) :
    getPath (n :: k :: q) (.dict cmd) = getPath (k :: q) (.dict (sectionOf (dget cmd n))) := by
  rw [getPath_cons]
  cases dget cmd n with
  | none => rfl
  | some v => cases v <;> rfl

theorem getPath_nonempty_nondict {k : Str} {q : List Str} {v : J} (hv : v.isDict = false) :
    getPath (k :: q) v = none := by
  cases v <;> simp_all [getPath, J.isDict]

/-! ### the per-path view of a wrapper tree -/

/-- what a source does to a slot: a source that contains the path overwrites it (even with `null`) -/
def assign : Option J → J → J
  | some v, _ => v
  | none, m => m

/-- a slot run through a list of readings, in order: each reading that is there overwrites it -/
def foldOpt {α : Type} (g : α → Option J) : List α → J → J
  | [], m => m
  | x :: xs, m => foldOpt g xs (assign (g x) m)

theorem foldOpt_append {α : Type} (g : α → Option J) (a b : List α) (m : J) :
    foldOpt g (a ++ b) m = foldOpt g b (foldOpt g a m) := by
  induction a generalizing m with
  | nil => rfl
  | cons x xs ih => exact ih _

theorem foldOpt_none {α : Type} {g : α → Option J} {xs : List α} {m : J} (h : ∀ x ∈ xs, g x = none) :
    foldOpt g xs m = m := by
  induction xs with
  | nil => rfl
  | cons x xs ih =>
    rw [foldOpt, h x (List.mem_cons_self ..)]
    exact ih fun y hy => h y (List.mem_cons_of_mem _ hy)

theorem foldOpt_last {α : Type} {g : α → Option J} {pre post : List α} (x : α) {m v : J}
    (hx : g x = some v) (hpost : ∀ y ∈ post, g y = none) : foldOpt g (pre ++ x :: post) m = v := by
  rw [foldOpt_append, foldOpt, hx]
  exact foldOpt_none hpost

theorem foldOpt_skip {α : Type} {g : α → Option J} {pre post : List α} (x : α) {m : J} (hx : g x = none) :
    foldOpt g (pre ++ x :: post) m = foldOpt g (pre ++ post) m := by
  rw [foldOpt_append, foldOpt, hx, foldOpt_append]
  rfl

/-- the `FieldWrapper._default` slot of the leaf at a path of field names (first field with each name) -/
def slotAt : WT → List Str → Option J
  | .nil, _ => none
  | .leaf _ _ _ _, [] => none
  | .nested _ _ _ _, [] => none
  | .leaf n _ m rest, k :: q => if k = n then (if q = [] then some m else none) else slotAt rest (k :: q)
  | .nested n _ sub rest, k :: q => if k = n then slotAt sub q else slotAt rest (k :: q)

/-- what the leaf at a path falls back to when its slot is None: the attribute of the default instance its
    wrapper sees, else its definition default (`null` when there is none) -/
def baseAt : WT → Option Dict → List Str → Option J
  | .nil, _, _ => none
  | .leaf _ _ _ _, _, [] => none
  | .nested _ _ _ _, _, [] => none
  | .leaf n df _ rest, ctx, k :: q =>
    if k = n then (if q = [] then some (match ctx with
                                         | some i => (dget i n).getD .null
                                         | none => df.getD .null) else none)
    else baseAt rest ctx (k :: q)
  | .nested n fac sub rest, ctx, k :: q =>
    if k = n then baseAt sub (childCtx n fac sub ctx) q else baseAt rest ctx (k :: q)

/-- the value a leaf ends up with: the command-line value if one was given, else the slot if it is not None,
    else the fallback -/
def pick (c : Option J) (m b : J) : J :=
  match c with
  | some v => v
  | none => if !m.isNull then m else b

/-- the fallback of a direct leaf -/
def leafBase (n : Str) (df : Option J) (ctx : Option Dict) : J :=
  match ctx with
  | some i => (dget i n).getD .null
  | none => df.getD .null

theorem baseAt_leaf (n : Str) (df : Option J) (m : J) (rest : WT) (ctx : Option Dict) (k : Str) (q : List Str) :
    baseAt (.leaf n df m rest) ctx (k :: q) =
      if k = n then (if q = [] then some (leafBase n df ctx) else none) else baseAt rest ctx (k :: q) := by
  cases ctx <;> rfl

theorem slotAt_nil_path (wt : WT) : slotAt wt [] = none := by cases wt <;> rfl

/-- `slotAt wt p = some m` as a relation, for induction along the path: the leaf is the first field, or the path
    skips the first field, or goes down into it -/
inductive Slot : WT → List Str → J → Prop
  | here {n df m rest} : Slot (.leaf n df m rest) [n] m
  | leafNext {n df m0 rest k q m} : k ≠ n → Slot rest (k :: q) m → Slot (.leaf n df m0 rest) (k :: q) m
  | down {n fac sub rest k q m} : Slot sub (k :: q) m → Slot (.nested n fac sub rest) (n :: k :: q) m
  | nestedNext {n fac sub rest k q m} : k ≠ n → Slot rest (k :: q) m → Slot (.nested n fac sub rest) (k :: q) m

theorem slot_of_slotAt {wt : WT} {p : List Str} {m : J} (h : slotAt wt p = some m) : Slot wt p m := by
  fun_induction slotAt wt p with
  | case1 | case2 | case3 | case5 => cases h
  | case4 => cases h; exact .here
  | case6 _ _ _ _ _ _ hk ih => exact .leafNext hk (ih h)
  | case7 _ _ _ _ q ih =>
    cases q with
    | nil => rw [slotAt_nil_path] at h; cases h
    | cons => exact .down (ih h)
  | case8 _ _ _ _ _ _ hk ih => exact .nestedNext hk (ih h)

theorem slotAt_of_slot {wt : WT} {p : List Str} {m : J} (h : Slot wt p m) : slotAt wt p = some m := by
  induction h with
  | here => rw [slotAt, if_pos rfl, if_pos rfl]
  | leafNext hk _ ih => rw [slotAt, if_neg hk, ih]
  | down _ ih => rw [slotAt, if_pos rfl, ih]
  | nestedNext hk _ ih => rw [slotAt, if_neg hk, ih]

/-- same class, possibly different slots -/
inductive Upd : WT → WT → Prop
  | nil : Upd .nil .nil
  | leaf {n df m m' rest rest'} : Upd rest rest' → Upd (.leaf n df m rest) (.leaf n df m' rest')
  | nested {n fac sub sub' rest rest'} : Upd sub sub' → Upd rest rest' →
      Upd (.nested n fac sub rest) (.nested n fac sub' rest')

theorem upd_refl (wt : WT) : Upd wt wt := by
  induction wt with
  | nil => exact .nil
  | leaf _ _ _ _ ih => exact .leaf ih
  | nested _ _ _ _ ihs ihr => exact .nested ihs ihr

theorem upd_trans {a b c : WT} (h1 : Upd a b) (h2 : Upd b c) : Upd a c := by
  induction h1 generalizing c with
  | nil => exact h2
  | leaf _ ih => cases h2 with | leaf h => exact .leaf (ih h)
  | nested _ _ ih1 ih2 => cases h2 with | nested ha hb => exact .nested (ih1 ha) (ih2 hb)

/-- what a successful `setFields wt d` returns: every slot `d` has a value for is overwritten (even with `null`) -/
def setF : WT → Dict → WT
  | .nil, _ => .nil
  | .leaf n df m rest, d => .leaf n df (assign (dget d n) m) (setF rest d)
  | .nested n fac sub rest, d =>
    .nested n fac (match dget d n with
                   | some (.dict d') => setF sub d'
                   | _ => sub) (setF rest d)

theorem upd_setF (wt : WT) (d : Dict) : Upd wt (setF wt d) := by
  induction wt generalizing d with
  | nil => exact .nil
  | leaf _ _ _ _ ih => exact .leaf (ih d)
  | nested n _ sub _ ihs ihr =>
    refine .nested ?_ (ihr d)
    split
    · exact ihs _
    · exact upd_refl sub

/-- **one source, one leaf**: after a successful `set_default(d)` the slot of every leaf is the value `d` holds at
    the leaf's path if `d` contains that path, and is unchanged otherwise -/
theorem slot_setF {wt : WT} {p : List Str} {m : J} (h : Slot wt p m) (d : Dict) :
    Slot (setF wt d) p (assign (getPath p (.dict d)) m) := by
  induction h generalizing d with
  | here => rw [getPath_singleton]; exact .here
  | leafNext hk _ ih => exact .leafNext hk (ih d)
  | nestedNext hk _ ih => exact .nestedNext hk (ih d)
  | @down n _ _ _ _ _ _ hs ih =>
    rw [getPath_cons, setF]
    cases dget d n with
    | none => exact .down hs
    | some v => cases v with
      | dict d' => exact .down (ih d')
      | _ => exact .down hs

theorem construct_upd {wt wt' : WT} (h : Upd wt wt') : ∀ kw, construct wt' kw = construct wt kw := by
  induction h with
  | nil => intro kw; rfl
  | leaf _ ih => intro kw; simp only [construct, ih]
  | nested _ _ ih1 ih2 => intro kw; simp only [construct, ih1, ih2]

theorem childCtx_upd {sub sub' : WT} (h : Upd sub sub') (n : Str) (fac : Option Dict) (ctx : Option Dict) :
    childCtx n fac sub' ctx = childCtx n fac sub ctx := by
  cases ctx <;> cases fac <;> first | rfl | exact construct_upd h _

theorem baseAt_upd {wt wt' : WT} (h : Upd wt wt') : ∀ ctx p, baseAt wt' ctx p = baseAt wt ctx p := by
  induction h with
  | nil => intro ctx p; rfl
  | leaf _ ih => intro ctx p; cases p <;> simp only [baseAt, ih]
  | nested hs _ ih1 ih2 => intro ctx p; cases p <;> simp only [baseAt, childCtx_upd hs, ih1, ih2]

theorem names_upd {wt wt' : WT} (h : Upd wt wt') : wt'.names = wt.names := by
  induction h with
  | nil => rfl
  | leaf _ ih => simp only [WT.names, ih]
  | nested _ _ _ ih2 => simp only [WT.names, ih2]

theorem resolve_leaf (n : Str) (df : Option J) (m0 : J) (rest : WT) (ctx : Option Dict) (cmd : Dict) :
    resolve (.leaf n df m0 rest) ctx cmd =
      if (pick (dget cmd n) m0 (leafBase n df ctx)).isNull then .error .exit2 else
      match resolve rest ctx cmd with
      | .error e => .error e
      | .ok r => .ok ((n, pick (dget cmd n) m0 (leafBase n df ctx)) :: r) := by
  rw [resolve]; cases dget cmd n <;> rfl

/-! ### deciding equality of values, so that closed test vectors are evaluated by the kernel alone -/

mutual
def J.decEq (a b : J) : Decidable (a = b) :=
  if h : a.ctorIdx = b.ctorIdx then
    match a, b, h with
    | .null, .null, _ => isTrue rfl
    | .int i, .int j, _ => if h : i = j then isTrue (h ▸ rfl) else isFalse fun e => h (J.int.inj e)
    | .str i, .str j, _ => if h : i = j then isTrue (h ▸ rfl) else isFalse fun e => h (J.str.inj e)
    | .atom i, .atom j, _ => if h : i = j then isTrue (h ▸ rfl) else isFalse fun e => h (J.atom.inj e)
    | .dict xs, .dict ys, _ =>
      match decEqL xs ys with
      | isTrue h => isTrue (h ▸ rfl)
      | isFalse h => isFalse fun e => h (J.dict.inj e)
  else isFalse fun e => h (e ▸ rfl)
def decEqL : (a b : List (Str × J)) → Decidable (a = b)
  | [], [] => isTrue rfl
  | [], _ :: _ => isFalse nofun
  | _ :: _, [] => isFalse nofun
  | (k, v) :: r, (k', v') :: r' =>
    if hk : k = k' then
      match J.decEq v v', decEqL r r' with
      | isTrue hv, isTrue hr => isTrue (hk ▸ hv ▸ hr ▸ rfl)
      | isFalse hv, _ => isFalse fun e => hv (Prod.mk.inj (List.cons.inj e).1).2
      | _, isFalse hr => isFalse fun e => hr (List.cons.inj e).2
    else isFalse fun e => hk (Prod.mk.inj (List.cons.inj e).1).1
end

instance : DecidableEq J := J.decEq

theorem eq_ok_of_toOption {α : Type} {x : Out α} {a : α} (h : x.toOption = some a) : x = .ok a := by
  cases x with
  | error e => cases h
  | ok b => cases h; rfl

end SpVerif.Layers
