/-
  SpVerif.Lemmas.PostTotal — on a well-formed wrapper forest `_postprocessing` RETURNS a namespace: none of the
  AttributeError / AssertionError / KeyError / RuntimeError arms of `SpVerif.Model.Post.postprocess` is taken and the
  input stays inside the modelled fragment.  Used by `Props/C09.lean` (`c09_accept`).
-/
import SpVerif.Lemmas.Post
namespace SpVerif.Post
open SpVerif

variable {V : Type}

/-! ### well-formed inputs (all decidable) -/

/-- the field wrapper `f` of dataclass wrapper `w` is not reused and writes into `w`'s constructor arguments:
    `field.destinations == [field.dest]` and `split_dest(field.dest)[0] == wrapper.dest` -/
def FieldOk (w : DcW V) (f : FieldW V) : Prop := f.dests = [f.dest] ∧ (splitDest f.dest).1 = w.dest

instance (w : DcW V) (f : FieldW V) : Decidable (FieldOk w f) := by unfold FieldOk; exact inferInstance

/-- in instantiation order every child comes before its parent (`split_dest(dest)[0]` is the parent's destination) -/
def ParentsLater : List (DcW V) → Prop
  | [] => True
  | w :: t => (w.hasParent = true → (splitDest w.dest).1 ∈ t.map (·.dest)) ∧ ParentsLater t

instance decParentsLater : (l : List (DcW V)) → Decidable (ParentsLater l)
  | [] => isTrue trivial
  | w :: t => by
    unfold ParentsLater
    have := decParentsLater t
    exact inferInstance

/-- What a real parser without ALWAYS_MERGE and without `set_defaults(<dataclass dest>=…)` hands to `_postprocessing`
    after an accepted parse whose user destinations are disjoint from simple-parsing's:
      * `self.constructor_arguments` is empty;
      * every wrapper has its one destination, destinations are pairwise distinct;
      * every field wrapper is `FieldOk`;
      * children are instantiated before their parents (`ParentsLater` of the level-sorted list);
      * no `Optional[Dataclass] = None` wrapper (their `for … else` needs every field name: not covered here);
      * the subgroup destinations are in the raw namespace, nothing (attribute or destination) is called `subgroups`
        when there are subgroup fields;
      * no `add_arguments` destination is already an attribute of the raw namespace. -/
def WellFormed (ps : PState V) (raw : Dict V) : Prop :=
  ps.cargs0 = [] ∧
  (∀ w ∈ ps.wrappers, w.dests = [w.dest]) ∧
  (ps.wrappers.map (·.dest)).Nodup ∧
  (∀ w ∈ ps.wrappers, ∀ f ∈ w.fields, FieldOk w f) ∧
  ParentsLater (sortDesc ps.wrappers) ∧
  (∀ w ∈ ps.wrappers, w.optNone = false) ∧
  (∀ d ∈ subgroupDests ps.wrappers, d ∈ dkeys raw) ∧
  dhas raw "subgroups".toList = false ∧
  subgroupsIsRootDest ps.wrappers = false ∧
  (∀ d ∈ rootDests ps.wrappers, d ∉ dkeys raw)

instance (ps : PState V) (raw : Dict V) : Decidable (WellFormed ps raw) := by unfold WellFormed; exact inferInstance

/-- every `FieldWrapper` belongs to an `init=True` field (dataclass_wrapper.py:77 creates no other) -/
def AllInit (ps : PState V) : Prop := ∀ f ∈ allFields ps.wrappers, f.init = true

/-- no wrapper was registered with `default=argparse.SUPPRESS` -/
def NoSuppress (ps : PState V) : Prop := ∀ w ∈ ps.wrappers, w.suppress = false

instance (ps : PState V) : Decidable (AllInit ps) := by unfold AllInit; exact inferInstance
instance (ps : PState V) : Decidable (NoSuppress ps) := by unfold NoSuppress; exact inferInstance

/-- the hypotheses of the frame theorem `c09_frame` about one accepted parse: the engine wrote only destinations of
    its table and parser-level defaults; the simple-parsing actions write field destinations; the user's destinations
    and the parser-level defaults are disjoint from the field and `add_arguments` destinations; those two are disjoint
    from each other; `AllInit`; pairwise distinct `add_arguments` destinations.  Decidable: the driver evaluates it
    on every accepted real run (`frame_hyps`). -/
def FrameHyps (ps : PState V) (ua sa : Table) (raw : Dict V) : Prop :=
  (∀ k ∈ dkeys raw, k ∈ (ua ++ sa).map (·.dest) ∨ k ∈ ps.defaultsKeys) ∧
  (∀ a ∈ sa, a.dest ∈ fieldDests ps.wrappers) ∧
  (∀ a ∈ ua, a.dest ∉ fieldDests ps.wrappers ∧ a.dest ∉ rootDests ps.wrappers) ∧
  (∀ k ∈ ps.defaultsKeys, k ∉ fieldDests ps.wrappers ∧ k ∉ rootDests ps.wrappers) ∧
  (∀ d ∈ rootDests ps.wrappers, d ∉ fieldDests ps.wrappers) ∧
  AllInit ps ∧ (rootDests ps.wrappers).Nodup

instance (ps : PState V) (ua sa : Table) (raw : Dict V) : Decidable (FrameHyps ps ua sa raw) := by
  unfold FrameHyps; exact inferInstance

/-- the dataclass constructors never raise -/
def ConstructTotal (A : Alg V) : Prop := ∀ ctor args, A.construct ctor args ≠ none

section
variable {A : Alg V} {ps : PState V} {raw : Dict V}

/-! ### the initial constructor arguments -/

theorem dkeys_foldl_csetdefault (l : List Str) : ∀ (c : CArgs V), (dkeys c ++ l).Nodup →
    dkeys (l.foldl csetdefault c) = dkeys c ++ l := by
  induction l with
  | nil => intro c _; simp
  | cons d l ih =>
    intro c hn
    have hd : d ∉ dkeys c := fun e => (List.nodup_append.mp hn).2.2 d e d List.mem_cons_self rfl
    simp only [List.foldl_cons, csetdefault, dhas_eq_false hd, Bool.false_eq_true, ↓reduceIte]
    have hk : dkeys (c ++ [(d, ([] : Dict V))]) = dkeys c ++ [d] := by simp [dkeys]
    rw [ih _ (by rw [hk, List.append_assoc]; exact hn), hk, List.append_assoc]; rfl

theorem flatMap_dests (ws : List (DcW V)) (h : ∀ w ∈ ws, w.dests = [w.dest]) :
    ws.flatMap (·.dests) = ws.map (·.dest) := by
  induction ws with
  | nil => rfl
  | cons w ws ih =>
    simp only [List.flatMap_cons, List.map_cons, h w List.mem_cons_self]
    rw [ih (fun x hx => h x (List.mem_cons_of_mem _ hx))]; rfl

theorem dkeys_initCArgs (h0 : ps.cargs0 = []) (hd : ∀ w ∈ ps.wrappers, w.dests = [w.dest])
    (hn : (ps.wrappers.map (·.dest)).Nodup) : dkeys (initCArgs ps) = ps.wrappers.map (·.dest) := by
  simp only [initCArgs, h0, flatMap_dests _ hd]
  have := dkeys_foldl_csetdefault (ps.wrappers.map (·.dest)) ([] : CArgs V) (by simpa [dkeys] using hn)
  simpa [dkeys] using this

theorem rootDests_sublist (L : List (DcW V)) (hd : ∀ w ∈ L, w.dests = [w.dest]) :
    (rootDests L).Sublist (L.map (·.dest)) := by
  induction L with
  | nil => exact List.Sublist.slnil
  | cons w t ih =>
    have ht := ih fun x hx => hd x (List.mem_cons_of_mem _ hx)
    have hroot : rootDests (w :: t) = (if w.hasParent then [] else w.dests) ++ rootDests t := rfl
    rw [hroot, hd w List.mem_cons_self]
    cases w.hasParent with
    | true => exact ht.cons _
    | false => exact ht.cons_cons _

/-- In instantiation order, with one constructor-argument dict per wrapper, total constructors and no
    `Optional` wrapper, every dict is found and consumed: the only exception left is the collision error. -/
theorem instWrappers_cargs (hA : ConstructTotal A) (dk : List Str) (L : List (DcW V)) :
    ∀ (st : Dict V × CArgs V), ParentsLater L → (L.map (·.dest)).Nodup → (∀ w ∈ L, w.dests = [w.dest]) →
    (∀ w ∈ L, w.optNone = false) → (∀ k, k ∈ dkeys st.2 ↔ k ∈ L.map (·.dest)) →
    (instWrappers A dk L st).Spec (fun st' => dkeys st'.2 = []) (· = .runtimeError) False := by
  induction L with
  | nil =>
    intro st _ _ _ _ hk
    exact List.eq_nil_iff_forall_not_mem.mpr fun k hk' => nomatch (hk k).mp hk'
  | cons w t ih =>
    intro st hpl hn hd ho hk
    have hn' := List.nodup_cons.mp hn
    have hdel : ∀ k, k ∈ dkeys (ddel st.2 w.dest) ↔ k ∈ t.map (·.dest) := by
      intro k
      rw [(ddel_del st.2 w.dest).mem_dkeys, hk k, List.map_cons, List.mem_cons, List.mem_singleton]
      exact ⟨fun ⟨m, ne⟩ => m.resolve_left ne, fun m => ⟨Or.inr m, fun e => hn'.1 (show w.dest ∈ t.map (·.dest) from e ▸ m)⟩⟩
    simp only [instWrappers, hd w List.mem_cons_self, instDests]
    have h1 := instDest_spec A dk w w.dest st
    revert h1
    cases instDest A dk w w.dest st with
    | unmodelled y => exact id
    | raise e =>
      rintro (⟨he, _⟩ | ⟨_, h⟩)
      · exact he
      · obtain ⟨args, hc⟩ := h ((hk _).mpr List.mem_cons_self) (ho w List.mem_cons_self)
        exact absurd hc (hA _ _)
    | ok st1 =>
      rintro ⟨_, _, k1⟩
      -- the parent comes later, so its dict is still there
      have k1 := k1 fun hp => (hdel _).mpr (hpl.1 hp)
      exact ih st1 hpl.2 hn'.2 (fun x hx => hd x (List.mem_cons_of_mem _ hx))
        (fun x hx => ho x (List.mem_cons_of_mem _ hx)) fun k => by rw [k1]; exact hdel k

/-! ### `_postprocessing` returns -/

theorem postprocess_total (hA : ConstructTotal A) (h : WellFormed ps raw) : ∃ n, postprocess A ps raw = .ok n := by
  obtain ⟨h0, hd, hn, hf, hpl, ho, hsp, hsa, hsr, hroot⟩ := h
  have hki := dkeys_initCArgs h0 hd hn
  have hperm := sortDesc_perm ps.wrappers
  refine Exists.imp (fun _ => And.left) (Out.Spec.returns (Q := fun _ => True) ?_ (fun _ => id) id)
  rw [postprocess_eq]
  refine Out.Spec.bind ((removeSubgroups_spec ps.wrappers raw).mono (fun r1 a => ?_)
    (fun e ⟨_, d, hd, hm⟩ => hm (hsp d hd)) (by rw [hsa, hsr]; simp))
  refine Out.Spec.bind ((fill_spec A ps r1.1 (initCArgs ps)).mono (fun r2 b => ?_)
    (fun e he => he.2 (by simpa [dkeys] using (congrArg List.length hki).symm)) ?_)
  · -- every field writes under its wrapper's destination, which has an entry
    have k2 : dkeys r2.2 = ps.wrappers.map (·.dest) := by
      refine (b.2 fun f hf' d hd' => ?_).trans hki
      obtain ⟨w, hw, hfw⟩ := List.mem_flatMap.mp hf'
      obtain ⟨e1, e2⟩ := hf w hw f hfw
      rw [e1, List.mem_singleton] at hd'
      rw [hki, hd', e2]
      exact List.mem_map.mpr ⟨w, hw, rfl⟩
    have hs := instWrappers_spec A ps.defaultsKeys (sortDesc ps.wrappers) (r2.1, r2.2)
    have hc := instWrappers_cargs hA ps.defaultsKeys (sortDesc ps.wrappers) (r2.1, r2.2) hpl
      ((hperm.map (·.dest)).nodup_iff.mpr hn) (fun w hw => hd w (hperm.mem_iff.mp hw))
      (fun w hw => ho w (hperm.mem_iff.mp hw)) (fun k => by rw [k2]; exact ((hperm.map (·.dest)).mem_iff).symm)
    have hrp := rootDests_sortDesc_perm ps.wrappers
    refine Out.Spec.bind ?_
    unfold instantiate
    refine Out.Spec.ite (fun hg => ?_) fun _ => ?_
    · have hl : r2.2.length = ps.wrappers.length := by simpa [dkeys] using congrArg List.length k2
      simp [hl] at hg
    revert hs hc
    cases instWrappers A ps.defaultsKeys (sortDesc ps.wrappers) (r2.1, r2.2) with
    | unmodelled y => exact fun h _ => h
    | raise e =>
      intro hs hc
      refine hs hc ⟨fun d hdr hm => ?_, hrp.nodup_iff.mpr (hn.sublist (rootDests_sublist _ hd))⟩
      exact hroot d (hrp.mem_iff.mp hdr) ((a.1.mem_dkeys d).mp ((b.1.mem_dkeys d).mp hm).1).1
    | ok st3 =>
      intro _ hc
      exact Out.Spec.ite (fun _ => trivial) fun hne => hne (by rw [List.map_eq_nil_iff.mp hc]; rfl)
  · rintro ⟨f, hf', d, d', r, hfd⟩
    obtain ⟨w, hw, hfw⟩ := List.mem_flatMap.mp hf'
    rw [(hf w hw f hfw).1] at hfd
    cases hfd

end

/-! ### `ParentsLater` of the level-sorted list follows from the level structure -/

theorem insertDesc_sorted (w : DcW V) (l : List (DcW V)) (h : l.Pairwise (fun a b => b.level ≤ a.level)) :
    (insertDesc w l).Pairwise (fun a b => b.level ≤ a.level) := by
  induction l with
  | nil => simp [insertDesc]
  | cons x xs ih =>
    simp only [insertDesc]
    have hx := List.pairwise_cons.mp h
    split
    · rename_i hle
      refine List.pairwise_cons.mpr ⟨fun b hb => ?_, h⟩
      rcases List.mem_cons.mp hb with rfl | hb
      · exact hle
      · exact Nat.le_trans (hx.1 b hb) hle
    · rename_i hle
      refine List.pairwise_cons.mpr ⟨fun b hb => ?_, ih hx.2⟩
      rcases List.mem_cons.mp ((insertDesc_perm w xs).mem_iff.mp hb) with rfl | hb
      · exact Nat.le_of_lt (Nat.lt_of_not_le hle)
      · exact hx.1 b hb

theorem sortDesc_sorted (l : List (DcW V)) : (sortDesc l).Pairwise (fun a b => b.level ≤ a.level) := by
  induction l with
  | nil => simp [sortDesc]
  | cons w ws ih => exact insertDesc_sorted w _ ih

theorem parentsLater_of_sorted (L : List (DcW V)) (hs : L.Pairwise (fun a b => b.level ≤ a.level))
    (hp : ∀ w ∈ L, w.hasParent = true → ∃ p ∈ L, p.dest = (splitDest w.dest).1 ∧ p.level < w.level) :
    ParentsLater L := by
  induction L with
  | nil => trivial
  | cons w t ih =>
    obtain ⟨hw, ht⟩ := List.pairwise_cons.mp hs
    refine ⟨fun hpar => ?_, ih ht fun x hx hxp => ?_⟩
    · obtain ⟨p, hpm, hpd, hpl⟩ := hp w List.mem_cons_self hpar
      rcases List.mem_cons.mp hpm with rfl | hpt
      · exact absurd hpl (Nat.lt_irrefl _)
      · exact hpd ▸ List.mem_map.mpr ⟨p, hpt, rfl⟩
    · obtain ⟨p, hpm, hpd, hpl⟩ := hp x (List.mem_cons_of_mem _ hx) hxp
      rcases List.mem_cons.mp hpm with rfl | hpt
      · exact absurd hpl (Nat.not_lt.mpr (hw x hx))
      · exact ⟨p, hpt, hpd, hpl⟩

/-- every wrapper with a parent has that parent (the wrapper at `split_dest(dest)[0]`) strictly higher up -/
def ParentsAbove (ws : List (DcW V)) : Prop :=
  ∀ w ∈ ws, w.hasParent = true → ∃ p ∈ ws, p.dest = (splitDest w.dest).1 ∧ p.level < w.level

theorem parentsLater_sortDesc (ws : List (DcW V)) (h : ParentsAbove ws) : ParentsLater (sortDesc ws) :=
  parentsLater_of_sorted (sortDesc ws) (sortDesc_sorted ws) fun w hw hp => by
    obtain ⟨p, hpm, hpd, hpl⟩ := h w ((sortDesc_perm ws).mem_iff.mp hw) hp
    exact ⟨p, (sortDesc_perm ws).mem_iff.mpr hpm, hpd, hpl⟩

end SpVerif.Post
